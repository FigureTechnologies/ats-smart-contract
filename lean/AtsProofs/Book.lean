/-
  AtsProofs.Book — association-list facts: lookups after set / del, key distinctness,
  sums over a book after an update.
-/
import AtsProofs.Basic
namespace Ats.Book
open Ats
variable {V : Type}

@[simp] theorem get?_nil (k : String) : Book.get? ([] : Book V) k = none := rfl

theorem get?_cons (k' : String) (v : V) (t : Book V) (k : String) :
    Book.get? ((k', v) :: t) k = if k' = k then some v else Book.get? t k := rfl

theorem get?_set_eq (b : Book V) (k : String) (v : V) : (b.set k v).get? k = some v := by
  induction b with
  | nil => simp [Book.set, get?_cons]
  | cons h t ih =>
    obtain ⟨k', v'⟩ := h
    unfold Book.set
    by_cases hk : k' = k
    · simp [hk, get?_cons]
    · simp [hk, get?_cons, ih]

theorem get?_set_ne (b : Book V) (k k2 : String) (v : V) (h : k2 ≠ k) :
    (b.set k v).get? k2 = b.get? k2 := by
  induction b with
  | nil => simp [Book.set, get?_cons, Ne.symm h]
  | cons hd t ih =>
    obtain ⟨k', v'⟩ := hd
    unfold Book.set
    by_cases hk : k' = k
    · subst hk; simp [get?_cons, Ne.symm h]
    · by_cases hk2 : k' = k2
      · subst hk2; simp [h, get?_cons]
      · simp [hk, hk2, get?_cons, ih]

theorem get?_del_eq (b : Book V) (k : String) : (b.del k).get? k = none := by
  induction b with
  | nil => rfl
  | cons hd t ih =>
    obtain ⟨k', v'⟩ := hd
    unfold Book.del
    by_cases hk : k' = k
    · simp [hk, ih]
    · simp [hk, get?_cons, ih]

theorem get?_del_ne (b : Book V) (k k2 : String) (h : k2 ≠ k) :
    (b.del k).get? k2 = b.get? k2 := by
  induction b with
  | nil => rfl
  | cons hd t ih =>
    obtain ⟨k', v'⟩ := hd
    unfold Book.del
    by_cases hk : k' = k
    · subst hk; simp [get?_cons, Ne.symm h, ih]
    · by_cases hk2 : k' = k2
      · subst hk2; simp [h, get?_cons]
      · simp [hk, hk2, get?_cons, ih]

theorem get?_some_mem {b : Book V} {k : String} {v : V} (h : b.get? k = some v) : (k, v) ∈ b := by
  induction b with
  | nil => simp at h
  | cons hd t ih =>
    obtain ⟨k', v'⟩ := hd
    rw [get?_cons] at h
    by_cases hk : k' = k
    · simp [hk] at h; subst hk h; exact List.mem_cons_self
    · simp [hk] at h; exact List.mem_cons_of_mem _ (ih h)

theorem get?_none_of_not_mem_keys {b : Book V} {k : String} (h : ∀ v, (k, v) ∉ b) : b.get? k = none := by
  cases hx : b.get? k with
  | none => rfl
  | some v => exact absurd (get?_some_mem hx) (h v)

theorem get?_isSome_of_mem_keys {b : Book V} {k : String} (h : k ∈ Book.keys b) :
    ∃ v, b.get? k = some v := by
  induction b with
  | nil => simp [Book.keys] at h
  | cons hd t ih =>
    obtain ⟨k', v'⟩ := hd
    rw [get?_cons]
    by_cases hk : k' = k
    · exact ⟨v', by simp [hk]⟩
    · simp only [Book.keys, List.map_cons, List.mem_cons] at h
      rcases h with h | h
      · exact absurd h.symm hk
      · obtain ⟨v, hv⟩ := ih (by simpa [Book.keys] using h)
        exact ⟨v, by simp [hk, hv]⟩

/-! ### sums over a book -/

/-- keys pairwise distinct, as a proposition -/
def Distinct : Book V → Prop
  | [] => True
  | (k, _) :: t => (∀ v, (k, v) ∉ t) ∧ Distinct t

theorem get?_none_of_distinct_head {k : String} {t : Book V} (h : ∀ v, (k, v) ∉ t) : Book.get? t k = none :=
  get?_none_of_not_mem_keys h

theorem sumBy_set_new (f : V → Nat) (b : Book V) (k : String) (v : V) (h : b.get? k = none) :
    Book.sumBy f (b.set k v) = Book.sumBy f b + f v := by
  induction b with
  | nil => simp [Book.set, Book.sumBy]
  | cons hd t ih =>
    obtain ⟨k', v'⟩ := hd
    rw [get?_cons] at h
    by_cases hk : k' = k
    · simp [hk] at h
    · simp only [hk, if_false] at h
      unfold Book.set
      simp only [hk, if_false, Book.sumBy, ih h]
      omega

theorem sumBy_del_none (f : V → Nat) (b : Book V) (k : String) (h : b.get? k = none) :
    Book.sumBy f (b.del k) = Book.sumBy f b := by
  induction b with
  | nil => rfl
  | cons hd t ih =>
    obtain ⟨k', v'⟩ := hd
    rw [get?_cons] at h
    by_cases hk : k' = k
    · simp [hk] at h
    · simp only [hk, if_false] at h
      unfold Book.del
      simp only [hk, if_false, Book.sumBy, ih h]

theorem sumBy_del (f : V → Nat) (b : Book V) (k : String) (old : V) (hd : Distinct b)
    (h : b.get? k = some old) : Book.sumBy f (b.del k) + f old = Book.sumBy f b := by
  induction b with
  | nil => simp at h
  | cons hd' t ih =>
    obtain ⟨k', v'⟩ := hd'
    rw [get?_cons] at h
    obtain ⟨hnot, hdt⟩ := hd
    by_cases hk : k' = k
    · subst hk
      simp only [if_true, Option.some.injEq] at h
      subst h
      unfold Book.del
      simp only [if_true, Book.sumBy]
      rw [sumBy_del_none f t k' (get?_none_of_distinct_head hnot)]
      omega
    · simp only [hk, if_false] at h
      unfold Book.del
      simp only [hk, if_false, Book.sumBy]
      have := ih hdt h
      omega

theorem sumBy_set_old (f : V → Nat) (b : Book V) (k : String) (old v : V) (hd : Distinct b)
    (h : b.get? k = some old) : Book.sumBy f (b.set k v) + f old = Book.sumBy f b + f v := by
  induction b with
  | nil => simp at h
  | cons hd' t ih =>
    obtain ⟨k', v'⟩ := hd'
    rw [get?_cons] at h
    obtain ⟨hnot, hdt⟩ := hd
    by_cases hk : k' = k
    · subst hk
      simp only [if_true, Option.some.injEq] at h
      subst h
      unfold Book.set
      simp only [if_true, Book.sumBy]
      omega
    · simp only [hk, if_false] at h
      unfold Book.set
      simp only [hk, if_false, Book.sumBy]
      have := ih hdt h
      omega

theorem distinct_of_bool {b : Book V} (h : Spec.distinctKeys b = true) : Distinct b := by
  induction b with
  | nil => trivial
  | cons hd t ih =>
    obtain ⟨k, v⟩ := hd
    unfold Spec.distinctKeys at h
    simp only [Bool.and_eq_true, List.all_eq_true, bne_iff_ne, ne_eq] at h
    refine ⟨?_, ih h.2⟩
    intro v' hm
    exact h.1 (k, v') hm rfl

/-! ### membership after an update -/

theorem mem_set {b : Book V} {k : String} {v : V} {kv : String × V} (h : kv ∈ b.set k v) :
    kv = (k, v) ∨ kv ∈ b := by
  induction b with
  | nil => simp [Book.set] at h; exact Or.inl h
  | cons hd t ih =>
    obtain ⟨k', v'⟩ := hd
    unfold Book.set at h
    by_cases hk : k' = k
    · simp only [hk, if_true, List.mem_cons] at h
      rcases h with h | h
      · exact Or.inl h
      · exact Or.inr (List.mem_cons_of_mem _ h)
    · simp only [hk, if_false, List.mem_cons] at h
      rcases h with h | h
      · exact Or.inr (by rw [h]; exact List.mem_cons_self)
      · rcases ih h with h | h
        · exact Or.inl h
        · exact Or.inr (List.mem_cons_of_mem _ h)

theorem mem_del {b : Book V} {k : String} {kv : String × V} (h : kv ∈ b.del k) : kv ∈ b ∧ kv.1 ≠ k := by
  induction b with
  | nil => simp [Book.del] at h
  | cons hd t ih =>
    obtain ⟨k', v'⟩ := hd
    unfold Book.del at h
    by_cases hk : k' = k
    · simp only [hk, if_true] at h
      exact ⟨List.mem_cons_of_mem _ (ih h).1, (ih h).2⟩
    · simp only [hk, if_false, List.mem_cons] at h
      rcases h with h | h
      · subst h; exact ⟨List.mem_cons_self, hk⟩
      · exact ⟨List.mem_cons_of_mem _ (ih h).1, (ih h).2⟩

theorem mem_set_key {b : Book V} {k : String} {v : V} {kv : String × V} (h : kv ∈ b.set k v)
    (hne : kv.1 ≠ k) : kv ∈ b := by
  rcases mem_set h with h | h
  · subst h; exact absurd rfl hne
  · exact h

theorem distinct_del {b : Book V} (k : String) (h : Distinct b) : Distinct (b.del k) := by
  induction b with
  | nil => trivial
  | cons hd t ih =>
    obtain ⟨k', v'⟩ := hd
    obtain ⟨hn, ht⟩ := h
    unfold Book.del
    by_cases hk : k' = k
    · simp only [hk, if_true]; exact ih ht
    · simp only [hk, if_false]
      exact ⟨fun v hm => hn v (mem_del hm).1, ih ht⟩

theorem distinct_set {b : Book V} (k : String) (v : V) (h : Distinct b) : Distinct (b.set k v) := by
  induction b with
  | nil => exact ⟨(fun _ hm => by cases hm), trivial⟩
  | cons hd t ih =>
    obtain ⟨k', v'⟩ := hd
    obtain ⟨hn, ht⟩ := h
    unfold Book.set
    by_cases hk : k' = k
    · subst hk; simp only [if_true]; exact ⟨hn, ht⟩
    · simp only [hk, if_false]
      refine ⟨fun v2 hm => ?_, ih ht⟩
      rcases mem_set hm with h | h
      · simp only [Prod.mk.injEq] at h; exact hk h.1
      · exact hn v2 h

theorem bool_of_distinct {b : Book V} (h : Distinct b) : Spec.distinctKeys b = true := by
  induction b with
  | nil => rfl
  | cons hd t ih =>
    obtain ⟨k, v⟩ := hd
    obtain ⟨hn, ht⟩ := h
    unfold Spec.distinctKeys
    simp only [Bool.and_eq_true, List.all_eq_true, bne_iff_ne, ne_eq]
    refine ⟨fun kv hm he => ?_, ih ht⟩
    apply hn kv.2
    rw [← he]; exact hm

theorem mem_get? {b : Book V} (hd : Distinct b) {k : String} {v : V} (h : (k, v) ∈ b) : b.get? k = some v := by
  induction b with
  | nil => cases h
  | cons hd' t ih =>
    obtain ⟨k', v'⟩ := hd'
    obtain ⟨hn, ht⟩ := hd
    rw [get?_cons]
    rcases List.mem_cons.mp h with h | h
    · simp only [Prod.mk.injEq] at h; simp [h.1, h.2]
    · by_cases hk : k' = k
      · subst hk; exact absurd h (hn v)
      · simp only [hk, if_false]; exact ih ht h

/-! ### sums over books that agree outside one key -/

/-- sums over two books with distinct keys and the same content agree (whatever the order) -/
theorem sumBy_ext (f : V → Nat) : ∀ (b b' : Book V), Distinct b → Distinct b' →
    (∀ k, b.get? k = b'.get? k) → Book.sumBy f b = Book.sumBy f b' := by
  intro b
  induction b with
  | nil =>
    intro b' _ _ h
    cases b' with
    | nil => rfl
    | cons hd t =>
      obtain ⟨k, v⟩ := hd
      have := h k
      simp [get?_cons] at this
  | cons hd t ih =>
    obtain ⟨k0, v0⟩ := hd
    intro b' hd hd' h
    obtain ⟨hnot, hdt⟩ := hd
    have h0 : b'.get? k0 = some v0 := by rw [← h k0]; simp [get?_cons]
    have hdel := sumBy_del f b' k0 v0 hd' h0
    have hrest : Book.sumBy f t = Book.sumBy f (b'.del k0) := by
      apply ih _ hdt (distinct_del k0 hd')
      intro k
      by_cases hk : k = k0
      · subst hk; rw [get?_del_eq, get?_none_of_distinct_head hnot]
      · rw [get?_del_ne _ _ _ hk, ← h k, get?_cons]
        simp [Ne.symm hk]
    simp only [Book.sumBy]
    omega

/-- value of `f` at a key (0 when absent) -/
def at? (f : V → Nat) (b : Book V) (k : String) : Nat :=
  match b.get? k with
  | some v => f v
  | none => 0

theorem sumBy_split (f : V → Nat) (b : Book V) (k : String) (hd : Distinct b) :
    Book.sumBy f b = Book.sumBy f (b.del k) + at? f b k := by
  unfold at?
  cases h : b.get? k with
  | none => simp [sumBy_del_none f b k h]
  | some v => have := sumBy_del f b k v hd h; simp only; omega

/-- two books that agree everywhere except at `k` differ in their sums by the entries at `k` -/
theorem sumBy_frame (f : V → Nat) (b b' : Book V) (k : String) (hd : Distinct b) (hd' : Distinct b')
    (h : ∀ k2, k2 ≠ k → b'.get? k2 = b.get? k2) :
    Book.sumBy f b' + at? f b k = Book.sumBy f b + at? f b' k := by
  have e : Book.sumBy f (b.del k) = Book.sumBy f (b'.del k) := by
    apply sumBy_ext f _ _ (distinct_del k hd) (distinct_del k hd')
    intro k2
    by_cases hk : k2 = k
    · subst hk; rw [get?_del_eq, get?_del_eq]
    · rw [get?_del_ne _ _ _ hk, get?_del_ne _ _ _ hk, h k2 hk]
  rw [sumBy_split f b k hd, sumBy_split f b' k hd', e]
  omega

theorem sumBy_same (f : V → Nat) (b b' : Book V) (hd : Distinct b) (hd' : Distinct b')
    (h : ∀ k2, b'.get? k2 = b.get? k2) : Book.sumBy f b' = Book.sumBy f b :=
  sumBy_ext f b' b hd' hd h

end Ats.Book

namespace Ats.Proofs
open Ats

/-! ### writing back a reduced order -/

theorem putAsk_get_ne (asks : Book Ask) (k k2 : String) (a : Ask) (h : k2 ≠ k) :
    (putAsk asks k a).get? k2 = asks.get? k2 := by
  unfold putAsk
  split
  · exact Book.get?_del_ne _ _ _ h
  · exact Book.get?_set_ne _ _ _ _ h

theorem putAsk_get_eq (asks : Book Ask) (k : String) (a : Ask) :
    (putAsk asks k a).get? k = if a.size = 0 then none else some a := by
  unfold putAsk
  by_cases h0 : a.size = 0
  · simp [h0, Book.get?_del_eq]
  · simp [h0, Book.get?_set_eq]

theorem putBid_get_ne (bids : Book BidEntry) (k k2 : String) (b : Bid) (h : k2 ≠ k) :
    (putBid bids k b).get? k2 = bids.get? k2 := by
  unfold putBid
  split
  · exact Book.get?_del_ne _ _ _ h
  · exact Book.get?_set_ne _ _ _ _ h

theorem putBid_get_eq (bids : Book BidEntry) (k : String) (b : Bid) :
    (putBid bids k b).get? k = if b.base.amount - b.accBase = 0 then none else some (.v3 b) := by
  unfold putBid
  by_cases h0 : b.base.amount - b.accBase = 0
  · simp [h0, Book.get?_del_eq]
  · simp [h0, Book.get?_set_eq]

theorem memS_singleton_false {k x : String} : memS k [x] = false ↔ k ≠ x := by
  unfold memS
  simp only [List.any_cons, List.any_nil, Bool.or_false, beq_eq_false_iff_ne, ne_eq]
  exact ⟨fun h e => h e.symm, fun h e => h e.symm⟩

theorem all_set {V : Type} {b : Book V} {k : String} {v : V} {P : String × V → Prop}
    (h : ∀ kv ∈ b, P kv) (hv : P (k, v)) : ∀ kv ∈ b.set k v, P kv := by
  intro kv hm
  rcases Book.mem_set hm with h1 | h1
  · rw [h1]; exact hv
  · exact h kv h1

theorem all_del {V : Type} {b : Book V} {k : String} {P : String × V → Prop}
    (h : ∀ kv ∈ b, P kv) : ∀ kv ∈ b.del k, P kv :=
  fun kv hm => h kv (Book.mem_del hm).1

theorem all_putAsk {asks : Book Ask} {k : String} {a : Ask} {P : String × Ask → Prop}
    (h : ∀ kv ∈ asks, P kv) (hv : a.size ≠ 0 → P (k, a)) : ∀ kv ∈ putAsk asks k a, P kv := by
  unfold putAsk
  by_cases h0 : a.size = 0
  · simp only [h0, beq_self_eq_true, if_true]; exact all_del h
  · simp only [h0, beq_iff_eq, if_false]; exact all_set h (hv h0)

theorem all_putBid {bids : Book BidEntry} {k : String} {b : Bid} {P : String × BidEntry → Prop}
    (h : ∀ kv ∈ bids, P kv) (hv : b.base.amount - b.accBase ≠ 0 → P (k, .v3 b)) :
    ∀ kv ∈ putBid bids k b, P kv := by
  unfold putBid
  by_cases h0 : b.base.amount - b.accBase = 0
  · simp only [h0, beq_self_eq_true, if_true]; exact all_del h
  · simp only [h0, beq_iff_eq, if_false]; exact all_set h (hv h0)

end Ats.Proofs
