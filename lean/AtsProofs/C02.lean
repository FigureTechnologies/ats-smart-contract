/-
  C02 — Match settlement: each party receives exactly its due, nobody else anything.
-/
import AtsProofs.Effects
namespace Ats.Proofs
open Ats Ats.Spec

/-- C02: an accepted match (on a sane book, under the magnitude hypothesis `ExactMatch`) moves
    exactly the amounts of `matchAmounts` along the routes of `matchPays` – as net credit per
    (account, denomination), every payout drawn from the contract – and both orders' remaining
    amounts fall by exactly these quantities -/
theorem C02_settled (env : Env) (s s' : State) (c : Call) (r : Response)
    (askId bidId price : String) (size : Nat) (hs : sane s = true)
    (hm : c.msg = .executeMatch askId bidId price size)
    (hx : ∀ b, loadBid s bidId = some b → ExactMatch s b price size)
    (h : execute env s c = .ok (s', r)) :
    C02_matchOK env.contract s askId bidId price size r s' = true := by
  unfold execute at h
  simp only [Res.bind_eq_ok, guardR_eq_ok, hm] at h
  obtain ⟨_, hv, h⟩ := h
  obtain ⟨a, b, bp, m, hf⟩ := fill hs (hm ▸ hv) hm hx h
  unfold C02_matchOK
  simp only [hf.ask, hf.bid, hf.amounts, Bool.and_eq_true]
  refine ⟨⟨?_, ?_⟩, ?_⟩
  · apply paysExactly_of
    · rw [hf.msgs]
      exact fromContract_append (fromContract_append (fromContract_append
        (fromContract_askFeeMsgList _ _ _ _ _) (fromContract_payIfPosR _ _ _ _ _))
        (fromContract_classMsgList _ _ _ _ _ _ _)) (fromContract_refundMsgList _ _ _ _ _)
    · intro x d
      rw [hf.msgs, credit_append, credit_append, credit_append, credit_askFeeMsgList env hf.no_ask_fee,
        credit_payIfPosR, credit_refundMsgList env hf.bidCut.facts hf.refund_fee]
      unfold matchPays
      simp only [expCredit_append, expCredit_cons, expCredit_nil]
      -- a plain ask sells the contract's base denomination, an approved one hands on the
      -- approver's escrow of it
      have hcls := hf.askCut.facts.cls_ok
      cases hcl : a.cls with
      | pending => exact absurd hcl hf.ready
      | basic =>
        simp only [hcl] at hcls
        simp [classMsgList, credit_append, Ask.reduce, hcl, hcls]; omega
      | ready ap cv =>
        simp only [hcl] at hcls
        simp [classMsgList, expCredit_cons, Ask.reduce, hcl, hcls.2.2.1]; omega
  · simp only [hf.state, putAsk_get_eq, askAfterMatch, askAfterReverse, beq_iff_eq]
  · simp only [hf.state, putBid_get_eq, bidAfterMatch, beq_iff_eq, Bid.accumulate, Bid.remBase,
      Nat.sub_sub, Nat.add_assoc]

end Ats.Proofs
