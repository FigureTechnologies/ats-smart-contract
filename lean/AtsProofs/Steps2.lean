/-
  AtsProofs.Steps2 — inversion lemmas for instantiate, modify_contract, migrate and query.
-/
import AtsProofs.Steps
namespace Ats
open Ats

theorem validAddrs_ok {env : Env} {l : List String} {u : Unit} :
    validAddrs env l = .ok u ↔ l.all env.validAddr = true := by
  unfold validAddrs; simp

theorem addrListR_ok {env : Env} {l : Option (List String)} {u : Unit} :
    addrListR env l = .ok u ↔ (∀ x, l = some x → x.all env.validAddr = true) := by
  unfold addrListR
  cases l with
  | none => simp
  | some x => simp [validAddrs_ok]

/-- a fee pair is acceptable to `feePair`: a full pair is the clearing pair or has a parseable
    rate and a valid account (half pairs are let through here; message validation refuses them) -/
def FeePairFine (env : Env) (acct rate : Option String) : Prop :=
  ∀ a r, acct = some a → rate = some r → (a = "" ∧ r = "") ∨ ((Dec.parse r).isSome = true ∧ env.validAddr a = true)

theorem feePair_inv {env : Env} {acct rate : Option String} {x : Option (Option FeeInfo)}
    (h : feePair env acct rate = .ok x) :
    FeePairFine env acct rate ∧ ∀ old, x.getD old = Spec.feeAfter old rate acct := by
  unfold feePair at h
  unfold FeePairFine Spec.feeAfter
  cases acct with
  | none =>
    simp only [Res.ok.injEq] at h; subst h
    cases rate <;> simp
  | some a =>
    cases rate with
    | none => simp only [Res.ok.injEq] at h; subst h; simp
    | some r =>
      by_cases hc : a = "" ∧ r = ""
      · simp only [hc, and_self, if_true, Res.ok.injEq] at h; subst h
        simp [hc]
      · simp only [hc, if_false, Res.bind_eq_ok, guardR_eq_ok, Res.pure_eq, Res.ok.injEq] at h
        obtain ⟨_, hp, _, hv, rfl⟩ := h
        refine ⟨?_, by intro old; simp [hc]⟩
        intro a' r' ha hr
        simp only [Option.some.injEq] at ha hr
        subst ha hr
        exact Or.inr ⟨hp, hv⟩

theorem feePair_prog {env : Env} {acct rate : Option String} (h : FeePairFine env acct rate) :
    ∃ x, feePair env acct rate = .ok x ∧ ∀ old, x.getD old = Spec.feeAfter old rate acct := by
  unfold feePair Spec.feeAfter
  cases acct with
  | none => cases rate <;> exact ⟨none, rfl, fun _ => rfl⟩
  | some a =>
    cases rate with
    | none => exact ⟨none, rfl, fun _ => rfl⟩
    | some r =>
      by_cases hc : a = "" ∧ r = ""
      · exact ⟨some none, by simp [hc], fun _ => by simp [hc]⟩
      · rcases h a r rfl rfl with h1 | ⟨hp, hv⟩
        · exact absurd h1 hc
        · refine ⟨some (some ⟨a, r⟩), ?_, fun _ => by simp [hc]⟩
          simp [hc, Res.bind_eq_ok, hp, hv]

theorem applyOverrides_ok {env : Env} {info info' : Info} {ap ex : Option (List String)}
    {ar aa br ba : Option String} {at_ bt : Option (List String)} :
    applyOverrides env info ap ex ar aa br ba at_ bt = .ok info' ↔
      (∀ x, ap = some x → x.all env.validAddr = true) ∧
      (∀ x, ex = some x → x.all env.validAddr = true) ∧
      FeePairFine env aa ar ∧ FeePairFine env ba br ∧
      info' = { info with approvers := ap.getD info.approvers, executors := ex.getD info.executors,
                          askFee := Spec.feeAfter info.askFee ar aa,
                          bidFee := Spec.feeAfter info.bidFee br ba,
                          askAttrs := at_.getD info.askAttrs, bidAttrs := bt.getD info.bidAttrs } := by
  unfold applyOverrides
  simp only [Res.bind_eq_ok, addrListR_ok, Res.pure_eq, Res.ok.injEq]
  constructor
  · rintro ⟨_, h1, _, h2, af, h3, bf, h4, rfl⟩
    obtain ⟨h3, ha⟩ := feePair_inv h3
    obtain ⟨h4, hb⟩ := feePair_inv h4
    exact ⟨h1, h2, h3, h4, by rw [ha, hb]⟩
  · rintro ⟨h1, h2, h3, h4, rfl⟩
    obtain ⟨af, haf, ha⟩ := feePair_prog h3
    obtain ⟨bf, hbf, hb⟩ := feePair_prog h4
    exact ⟨(), h1, (), h2, af, haf, bf, hbf, by rw [ha, hb]⟩

/-! ### instantiate -/

theorem instantiate_ok {env : Env} {m : InstMsg} {s : State} {r : Response}
    (h : instantiate env m = .ok (s, r)) :
    m.valid = true ∧ FeePairFine env m.askAcct m.askRate ∧ FeePairFine env m.bidAcct m.bidRate ∧
    m.increment % 10 ^ m.precision = 0 ∧
    s = { info := { name := m.name, bindName := "", baseDenom := m.baseDenom,
                    convertible := m.convertible, quotes := m.quotes, approvers := m.approvers,
                    executors := m.executors,
                    askFee := Spec.feeAfter none m.askRate m.askAcct,
                    bidFee := Spec.feeAfter none m.bidRate m.bidAcct,
                    askAttrs := m.askAttrs, bidAttrs := m.bidAttrs,
                    precision := m.precision, increment := m.increment },
          version := ⟨env.crateName, env.pkgVersion⟩, asks := [], bids := [] } := by
  unfold instantiate at h
  simp only [Res.bind_eq_ok, guardR_eq_ok, Res.pure_eq, Res.ok.injEq, Prod.mk.injEq, beq_iff_eq] at h
  obtain ⟨_, hv, _, _, _, _, af, haf, bf, hbf, _, hinc, rfl, _⟩ := h
  obtain ⟨ha, ha'⟩ := feePair_inv haf
  obtain ⟨hb, hb'⟩ := feePair_inv hbf
  exact ⟨hv, ha, hb, hinc, by rw [ha' none, hb' none]⟩

/-- a fee pair `feePair` lets through leaves a readable rate -/
theorem rateOK_feeAfter {env : Env} {old : Option FeeInfo} {rate acct : Option String}
    (hold : Spec.rateOK old = true) (hf : FeePairFine env acct rate) :
    Spec.rateOK (Spec.feeAfter old rate acct) = true := by
  unfold Spec.feeAfter
  cases rate with
  | none => exact hold
  | some r =>
    cases acct with
    | none => exact hold
    | some a =>
      by_cases hc : a = "" ∧ r = ""
      · simp [hc, Spec.rateOK]
      · simp only [hc, if_false, Spec.rateOK]
        rcases hf a r rfl rfl with h | h
        · exact absurd h hc
        · exact h.1

/-! ### modify_contract -/

/-- `check_fee_rate` accepted: while the side is open a supplied rate equals the current one -/
def FeeRateKept (contains : Bool) (cur : Option FeeInfo) (newRate : Option String) : Prop :=
  contains = true → ∀ r, newRate = some r →
    ∃ c a b, cur = some c ∧ Dec.parse c.rate = some a ∧ Dec.parse r = some b ∧ Dec.eqv a b = true

theorem checkFeeRate_ok {contains : Bool} {cur : Option FeeInfo} {nr na : Option String} {u : Unit} :
    checkFeeRate contains cur nr na = .ok u ↔ FeeRateKept contains cur nr := by
  unfold checkFeeRate FeeRateKept
  cases contains with
  | false => simp
  | true =>
    cases nr with
    | none => simp
    | some r =>
      cases cur with
      | none => simp
      | some c =>
        simp only [if_true, ratesEqual, Res.bind_eq_ok, orErr_eq_ok, guardR_eq_ok, forall_const,
          Option.some.injEq, forall_eq']
        constructor
        · rintro ⟨a, ha, b, hb, he⟩; exact ⟨c, a, b, rfl, ha, hb, he⟩
        · rintro ⟨c', a, b, rfl, ha, hb, he⟩; exact ⟨a, ha, b, hb, he⟩

theorem approversKept_ok {info : Info} {anyOpen : Bool} {ap : Option (List String)} {u : Unit} :
    approversKept info anyOpen ap = .ok u ↔
      (anyOpen = true → ∀ l, ap = some l → subsetS info.approvers l = true) := by
  unfold approversKept
  cases ap with
  | none => simp
  | some l => cases anyOpen <;> simp

theorem modifyContract_ok {env : Env} {s s' : State} {sender : String} {funds : List Coin}
    {ap ex : Option (List String)} {ar aa br ba : Option String} {at_ bt : Option (List String)}
    {r : Response}
    (h : modifyContract env s sender funds ap ex ar aa br ba at_ bt = .ok (s', r)) :
    memS sender s.info.executors = true ∧ funds = [] ∧
    (s.asks.isEmpty = false → at_ = none) ∧ FeeRateKept (!s.asks.isEmpty) s.info.askFee ar ∧
    (s.bids.isEmpty = false → bt = none) ∧ FeeRateKept (!s.bids.isEmpty) s.info.bidFee br ∧
    ((s.asks.isEmpty = false ∨ s.bids.isEmpty = false) → ∀ l, ap = some l → subsetS s.info.approvers l = true) ∧
    (∃ v, Version.parse s.version.version = some v ∧ v.ltReq 0 16 2 = false) ∧
    (∀ x, ap = some x → x.all env.validAddr = true) ∧
    (∀ x, ex = some x → x.all env.validAddr = true) ∧
    FeePairFine env aa ar ∧ FeePairFine env ba br ∧
    s' = { s with info :=
            { s.info with approvers := ap.getD s.info.approvers, executors := ex.getD s.info.executors,
                          askFee := Spec.feeAfter s.info.askFee ar aa,
                          bidFee := Spec.feeAfter s.info.bidFee br ba,
                          askAttrs := at_.getD s.info.askAttrs, bidAttrs := bt.getD s.info.bidAttrs } } ∧
    r = { msgs := [], attrs := [("action", "modify_contract")] } := by
  unfold modifyContract at h
  simp only [Res.bind_eq_ok, guardR_eq_ok, orErr_eq_ok, checkFeeRate_ok, approversKept_ok,
    applyOverrides_ok, Res.pure_eq, Res.ok.injEq, Prod.mk.injEq] at h
  obtain ⟨_, hex, _, hf, _, h1, _, h2, _, h3, _, h4, _, h5, v, hv, _, hv2, info', ⟨h6, h7, h8, h9, rfl⟩,
    rfl, rfl⟩ := h
  refine ⟨hex, by simpa using hf, ?_, h2, ?_, h4, ?_, ⟨v, hv, by simpa using hv2⟩, h6, h7, h8, h9, rfl, rfl⟩
  · intro he; cases at_ <;> simp_all
  · intro he; cases bt <;> simp_all
  · intro he; apply h5; rcases he with he | he <;> simp [he]

/-! ### execute -/

/-- an accepted request is one run of one of the eight handlers (the three bid reversals share
    `reverseBid`, expire and reject of an ask share `reverseAsk`) -/
inductive Accepted (env : Env) (s : State) (c : Call) (s' : State) (r : Response) : Prop
  | createAsk (id base quote price : String) (size : Nat)
      (hm : c.msg = .createAsk id base quote price size)
      (h : createAsk env s c.sender c.funds id base quote price size = .ok (s', r))
  | createBid (id base : String) (fee : Option Coin) (price quote : String) (qs size : Nat)
      (hm : c.msg = .createBid id base fee price quote qs size)
      (h : createBid env s c.sender c.funds id base fee price quote qs size = .ok (s', r))
  | approveAsk (id base : String) (size : Nat) (hm : c.msg = .approveAsk id base size)
      (h : approveAsk env s c.sender c.funds id base size = .ok (s', r))
  | cancelAsk (id : String) (hm : c.msg = .cancelAsk id)
      (h : cancelAsk env s c.sender c.funds id = .ok (s', r))
  | reverseAsk (id : String) (requested : Option Nat)
      (hm : c.msg = .expireAsk id ∧ requested = none ∨ c.msg = .rejectAsk id requested)
      (h : reverseAsk env s c.sender c.funds id (Spec.actionName c.msg) requested = .ok (s', r))
  | reverseBid (id : String) (requested : Option Nat)
      (hm : (c.msg = .cancelBid id ∨ c.msg = .expireBid id) ∧ requested = none ∨
            c.msg = .rejectBid id requested)
      (h : reverseBid env s c.sender c.funds id (Spec.actionName c.msg) requested = .ok (s', r))
  | executeMatch (askId bidId price : String) (size : Nat)
      (hm : c.msg = .executeMatch askId bidId price size)
      (h : executeMatch env s c.sender c.funds askId bidId price size = .ok (s', r))
  | modify (ap ex : Option (List String)) (ar aa br ba : Option String) (at_ bt : Option (List String))
      (hm : c.msg = .modify ap ex ar aa br ba at_ bt)
      (h : modifyContract env s c.sender c.funds ap ex ar aa br ba at_ bt = .ok (s', r))

theorem execute_ok {env : Env} {s s' : State} {c : Call} {r : Response}
    (h : execute env s c = .ok (s', r)) : c.msg.valid = true ∧ Accepted env s c s' r := by
  unfold execute at h
  simp only [Res.bind_eq_ok, guardR_eq_ok] at h
  obtain ⟨_, hv, h⟩ := h
  refine ⟨hv, ?_⟩
  cases hm : c.msg <;> simp only [hm] at h
  case approveAsk id base size => exact .approveAsk id base size hm h
  case cancelAsk id => exact .cancelAsk id hm h
  case cancelBid id => exact .reverseBid id none (Or.inl ⟨Or.inl hm, rfl⟩) (by rw [hm]; exact h)
  case createAsk id base quote price size => exact .createAsk id base quote price size hm h
  case createBid id base fee price quote qs size => exact .createBid id base fee price quote qs size hm h
  case executeMatch a b p sz => exact .executeMatch a b p sz hm h
  case expireAsk id => exact .reverseAsk id none (Or.inl ⟨hm, rfl⟩) (by rw [hm]; exact h)
  case expireBid id => exact .reverseBid id none (Or.inl ⟨Or.inr hm, rfl⟩) (by rw [hm]; exact h)
  case rejectAsk id sz => exact .reverseAsk id sz (Or.inr hm) (by rw [hm]; exact h)
  case rejectBid id sz => exact .reverseBid id sz (Or.inr hm) (by rw [hm]; exact h)
  case modify ap ex ar aa br ba at_ bt => exact .modify ap ex ar aa br ba at_ bt hm h

/-! ### migrate -/

theorem migrate_ok {env : Env} {s s' : State} {m : MigMsg} {r : Response}
    (h : migrate env s m = .ok (s', r)) :
    m.valid = true ∧
    (∃ v, Version.parse s.version.version = some v ∧ v.geReq 0 16 2 = true ∧
      s'.bids = (if v.geReq 0 16 2 && v.ltReq 0 19 1
                 then s.bids.map (fun kv => (kv.1, convertEntry kv.2)) else s.bids)) ∧
    (∀ x, m.approvers = some x → x.all env.validAddr = true) ∧
    FeePairFine env m.askAcct m.askRate ∧ FeePairFine env m.bidAcct m.bidRate ∧
    s'.info = { s.info with approvers := m.approvers.getD s.info.approvers,
                            askFee := Spec.feeAfter s.info.askFee m.askRate m.askAcct,
                            bidFee := Spec.feeAfter s.info.bidFee m.bidRate m.bidAcct,
                            askAttrs := m.askAttrs.getD s.info.askAttrs,
                            bidAttrs := m.bidAttrs.getD s.info.bidAttrs } ∧
    s'.version = ⟨env.crateName, env.pkgVersion⟩ ∧ s'.asks = s.asks ∧
    r = { msgs := [], attrs := [] } := by
  unfold migrate at h
  simp only [Res.bind_eq_ok, guardR_eq_ok, orErr_eq_ok, applyOverrides_ok, Res.pure_eq,
    Res.ok.injEq, Prod.mk.injEq] at h
  obtain ⟨_, hv, v, hp, _, hge, info', ⟨h1, _, h3, h4, rfl⟩, _, _, rfl, rfl⟩ := h
  exact ⟨hv, ⟨v, hp, hge, rfl⟩, h1, h3, h4, by simp, rfl, rfl, rfl⟩

/-! ### query -/

theorem query_ok {s : State} {q : QueryMsg} {out : QueryOut} :
    query s q = .ok out ↔
      (match q with
       | .getAsk id => isUuidAnyForm id = true ∧ ∃ a, s.asks.get? id = some a ∧ out = .ask a
       | .getBid id => isUuidAnyForm id = true ∧ ∃ b, loadBid s id = some b ∧ out = .bid b
       | .getInfo => out = .info s.info
       | .getVersion => out = .version s.version) := by
  unfold query
  cases q <;> simp only [QueryMsg.valid, Res.bind_eq_ok, guardR_eq_ok, orErr_eq_ok, Res.pure_eq,
    Res.ok.injEq, exists_const, true_and]
  · constructor <;> rintro ⟨hv, a, ha, rfl⟩ <;> exact ⟨hv, a, ha, rfl⟩
  · constructor <;> rintro ⟨hv, a, ha, rfl⟩ <;> exact ⟨hv, a, ha, rfl⟩
  · exact eq_comm
  · exact eq_comm

theorem query_getAsk {s : State} {id : String} {a : Ask} (h : query s (.getAsk id) = .ok (.ask a)) :
    s.asks.get? id = some a := by
  obtain ⟨_, a', ha', he⟩ := query_ok.mp h
  cases he; exact ha'

theorem query_getBid {s : State} {id : String} {b : Bid} (h : query s (.getBid id) = .ok (.bid b)) :
    loadBid s id = some b := by
  obtain ⟨_, b', hb', he⟩ := query_ok.mp h
  cases he; exact hb'

end Ats
