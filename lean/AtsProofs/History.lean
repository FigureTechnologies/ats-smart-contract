/-
  AtsProofs.History — from single steps to histories.  A history is a list of execute requests
  and migrations (`Ev`), refused ones skipped (= rolled back); `runHist`, `GoodHist` and `Reach`
  are the case without migrations, and what is said of them is read off the general case.  What
  every accepted event preserves holds at the end of every history (`runHistM_inv`) and, from
  instantiation, in every reachable state (`reachM_inv`); the life of a single order
  (`AskLife`, `BidLife`) carries the one-step facts of C11 and C12 along.
-/
import AtsProofs.C01b
import AtsProofs.C09
import AtsProofs.Migrate
import AtsProofs.C11
import AtsProofs.C12
import AtsProofs.C17
namespace Ats.Proofs
open Ats Ats.Spec

/-- run a history: refused requests change nothing -/
def runHist (s : State) (L : Ledger) : List (Env × Call) → State × Ledger
  | [] => (s, L)
  | (env, c) :: t =>
    match execute env s c with
    | .ok (s', r) => runHist s' (L.add env.contract c r) t
    | .err _ => runHist s L t

/-- assumptions on one request of a history: the magnitude hypothesis (F6) for matches, and the
    contract's own address is neither the sender nor a payee -/
def GoodStep (env : Env) (s : State) (c : Call) : Prop :=
  ExactStep s c.msg ∧ c.sender ≠ env.contract ∧
  ∀ s' r, execute env s c = .ok (s', r) → NoSelfPay env.contract r.msgs

def GoodHist : State → List (Env × Call) → Prop
  | _, [] => True
  | s, (env, c) :: t =>
    match execute env s c with
    | .ok (s', _) => GoodStep env s c ∧ GoodHist s' t
    | .err _ => GoodHist s t

/-- one event of a history: an execute request or a migration (each with the environment –
    marker table, attributes – of that block) -/
inductive Ev
  | exec (env : Env) (c : Call)
  | mig (env : Env) (m : MigMsg)

/-- run a history of requests and migrations: refused ones change nothing; a migration moves no
    funds, so the ledger only advances on execute requests -/
def runHistM (s : State) (L : Ledger) : List Ev → State × Ledger
  | [] => (s, L)
  | .exec env c :: t =>
    (match execute env s c with
     | .ok (s', r) => runHistM s' (L.add env.contract c r) t
     | .err _ => runHistM s L t)
  | .mig env m :: t =>
    (match migrate env s m with
     | .ok (s', _) => runHistM s' L t
     | .err _ => runHistM s L t)

def GoodHistM : State → List Ev → Prop
  | _, [] => True
  | s, .exec env c :: t =>
    (match execute env s c with
     | .ok (s', _) => GoodStep env s c ∧ GoodHistM s' t
     | .err _ => GoodHistM s t)
  | s, .mig env m :: t =>
    (match migrate env s m with
     | .ok (s', _) => GoodHistM s' t
     | .err _ => GoodHistM s t)

theorem runHist_eq_runHistM (s : State) (L : Ledger) (hist : List (Env × Call)) :
    runHist s L hist = runHistM s L (hist.map fun ec => .exec ec.1 ec.2) := by
  induction hist generalizing s L with
  | nil => rfl
  | cons ec t ih =>
    simp only [List.map_cons, runHist, runHistM]
    cases execute ec.1 s ec.2 with
    | err e => exact ih s L
    | ok p => exact ih p.1 _

theorem goodHist_iff_goodHistM (s : State) (hist : List (Env × Call)) :
    GoodHist s hist ↔ GoodHistM s (hist.map fun ec => .exec ec.1 ec.2) := by
  induction hist generalizing s with
  | nil => exact Iff.rfl
  | cons ec t ih =>
    simp only [List.map_cons, GoodHist, GoodHistM]
    cases execute ec.1 s ec.2 with
    | err e => exact ih s
    | ok p => exact and_congr_right' (ih p.1)

/-- what every accepted request (under `GoodStep`) and every accepted migration preserves on
    sane states holds, together with `sane`, at the end of every good history -/
theorem runHistM_inv {P : State → Ledger → Prop}
    (hexec : ∀ {env s s' L c r}, sane s = true → P s L → GoodStep env s c →
      execute env s c = .ok (s', r) → P s' (L.add env.contract c r))
    (hmig : ∀ {env s s' L m r}, sane s = true → P s L → migrate env s m = .ok (s', r) → P s' L)
    {s : State} {L : Ledger} (hist : List Ev) (hs : sane s = true) (h0 : P s L)
    (hg : GoodHistM s hist) :
    sane (runHistM s L hist).1 = true ∧ P (runHistM s L hist).1 (runHistM s L hist).2 := by
  induction hist generalizing s L with
  | nil => exact ⟨hs, h0⟩
  | cons ev t ih =>
    cases ev with
    | exec env c =>
      unfold runHistM
      unfold GoodHistM at hg
      cases hx : execute env s c with
      | err e =>
        simp only [hx] at hg ⊢
        exact ih hs h0 hg
      | ok p =>
        obtain ⟨s', r⟩ := p
        simp only [hx] at hg ⊢
        exact ih (Sane_step env s s' c r hs hg.1.1 hx) (hexec hs h0 hg.1 hx) hg.2
    | mig env m =>
      unfold runHistM
      unfold GoodHistM at hg
      cases hx : migrate env s m with
      | err e =>
        simp only [hx] at hg ⊢
        exact ih hs h0 hg
      | ok p =>
        obtain ⟨s', r⟩ := p
        simp only [hx] at hg ⊢
        exact ih (migrate_sane env s s' m r hs hx) (hmig hs h0 hx) hg

theorem balanced_exec {env : Env} {s s' : State} {L : Ledger} {c : Call} {r : Response}
    (hs : sane s = true) (hb : Balanced s L) (hg : GoodStep env s c)
    (h : execute env s c = .ok (s', r)) : Balanced s' (L.add env.contract c r) := by
  intro d
  have := denomOK_iff.mp (C01_step env s s' c r d hs hg.1 hg.2.1 (hg.2.2 s' r h) h)
  have hbd := hb d
  simp only [Ledger.add]
  omega

/-- a migration sends nothing and, on a sane book, changes no order: what is owed stays -/
theorem balanced_migrate {env : Env} {s s' : State} {L : Ledger} {m : MigMsg} {r : Response}
    (hs : sane s = true) (hb : Balanced s L) (h : migrate env s m = .ok (s', r)) :
    Balanced s' L := by
  obtain ⟨ha, hbk⟩ := migrate_book_same env s s' m r hs h
  intro d
  have : owed s' d = owed s d := by unfold owed; rw [ha, hbk]
  rw [this]
  exact hb d

/-- C01 over histories with migrations: along every finite history of accepted and refused
    execute requests *and migrations* from a sane balanced state – in particular from
    instantiation – the contract's holdings of every denomination equal exactly what its open
    orders are owed, and the state stays sane.  (No hypothesis on the migrations at all: any
    message, any stored version.) -/
theorem C01_historyM (s : State) (L : Ledger) (hist : List Ev)
    (hs : sane s = true) (hb : Balanced s L) (hg : GoodHistM s hist) :
    sane (runHistM s L hist).1 = true ∧ Balanced (runHistM s L hist).1 (runHistM s L hist).2 :=
  runHistM_inv (P := Balanced) balanced_exec balanced_migrate hist hs hb hg

/-- … in particular from instantiation -/
theorem C01_from_instantiation (env : Env) (m : InstMsg) (s : State) (r : Response) (hist : List Ev)
    (hi : instantiate env m = .ok (s, r)) (hg : GoodHistM s hist) :
    Balanced (runHistM s Ledger.zero hist).1 (runHistM s Ledger.zero hist).2 :=
  (C01_historyM s Ledger.zero hist (sane_init env m s r hi) (balanced_init env m s r hi) hg).2

/-- C01 over histories: along every finite history of accepted and refused requests from a
    sane balanced state – in particular from instantiation – the contract's holdings of every
    denomination equal exactly what its open orders are owed, and the state stays sane -/
theorem C01_history (s : State) (L : Ledger) (hist : List (Env × Call)) (ct : String)
    (hct : ∀ ec ∈ hist, ec.1.contract = ct)
    (hs : sane s = true) (hb : Balanced s L) (hg : GoodHist s hist) :
    sane (runHist s L hist).1 = true ∧ Balanced (runHist s L hist).1 (runHist s L hist).2 := by
  rw [runHist_eq_runHistM]
  exact C01_historyM s L _ hs hb ((goodHist_iff_goodHistM s hist).mp hg)

/-- the states reachable from instantiation -/
inductive Reach : State → Prop
  | init (env : Env) (m : InstMsg) (s : State) (r : Response) :
      instantiate env m = .ok (s, r) → Reach s
  | step (env : Env) (s s' : State) (c : Call) (r : Response) :
      Reach s → ExactStep s c.msg → execute env s c = .ok (s', r) → Reach s'

/-- states reachable by instantiation, accepted execute requests and accepted migrations -/
inductive ReachM : State → Prop
  | init (env : Env) (m : InstMsg) (s : State) (r : Response) :
      instantiate env m = .ok (s, r) → ReachM s
  | step (env : Env) (s s' : State) (c : Call) (r : Response) :
      ReachM s → ExactStep s c.msg → execute env s c = .ok (s', r) → ReachM s'
  | mig (env : Env) (s s' : State) (m : MigMsg) (r : Response) :
      ReachM s → migrate env s m = .ok (s', r) → ReachM s'

theorem reachM_of_reach {s : State} (h : Reach s) : ReachM s := by
  induction h with
  | init env m s r hi => exact .init env m s r hi
  | step env s s' c r _ hx he ih => exact .step env s s' c r ih hx he

theorem reachM_inv {s : State} (h : ReachM s) : sane s = true ∧ feeExact s = true := by
  induction h with
  | init env m s r hi => exact ⟨sane_init env m s r hi, C09_init env m s r hi⟩
  | step env s s' c r _ hx he ih =>
    exact ⟨Sane_step env s s' c r ih.1 hx he, C09_prorata env s s' c r ih.1 ih.2 hx he⟩
  | mig env s s' m r _ he ih =>
    exact ⟨migrate_sane env s s' m r ih.1 he, migrate_feeExact env s s' m r ih.1 ih.2 he⟩

/-- every state of such a history is `ReachM` (so C06, C08, C09, C11 hold in it as well) -/
theorem reachM_runHistM {s : State} (L : Ledger) (hist : List Ev) (hr : ReachM s)
    (hg : GoodHistM s hist) : ReachM (runHistM s L hist).1 :=
  (runHistM_inv (P := fun s _ => ReachM s) (fun _ hr hg hx => .step _ _ _ _ _ hr hg.1 hx)
    (fun _ hr hx => .mig _ _ _ _ _ hr hx) hist (reachM_inv hr).1 hr hg).2

theorem reach_sane {s : State} (h : Reach s) : sane s = true :=
  (reachM_inv (reachM_of_reach h)).1

/-- the pro-rata invariant holds in every reachable state -/
theorem reach_feeExact {s : State} (h : Reach s) : feeExact s = true :=
  (reachM_inv (reachM_of_reach h)).2

/-- C11 (consistency), C08 (tracking), C09 (nearest unit) and C06 (exit liveness) in every state
    reachable through histories that may contain migrations -/
theorem C11_consistentM {s : State} (h : ReachM s) :
    (∀ k a, s.asks.get? k = some a → askSane s.info k a = true) ∧
    (∀ k e, s.bids.get? k = some e → bidSane s.info k e = true) :=
  ⟨fun _ _ hk => sane_ask (reachM_inv h).1 hk, fun _ _ hk => sane_bid (reachM_inv h).1 hk⟩

/-- C11 (consistency): every order visible on the book of a state reachable from instantiation
    is internally consistent – positive remaining size, plain exactly when its base is the
    contract's base denomination, a traded quote denomination, a valid price; for a bid the
    unspent quote equals price × unfilled size -/
theorem C11_consistent {s : State} (h : Reach s) :
    (∀ k a, s.asks.get? k = some a → askSane s.info k a = true) ∧
    (∀ k e, s.bids.get? k = some e → bidSane s.info k e = true) :=
  C11_consistentM (reachM_of_reach h)

theorem C08_tracksM {s : State} (h : ReachM s) (k : String) (a : Ask) (ap : String) (conv : Coin)
    (hk : s.asks.get? k = some a) (hc : a.cls = .ready ap conv) :
    conv.amount = a.size ∧ conv.denom = s.info.baseDenom := by
  have := (sane_ask_facts (reachM_inv h).1 hk).cls_ok
  simp only [hc] at this
  exact ⟨this.2.2.2, this.2.2.1⟩

/-- C08 (tracking): in every reachable state the approver-supplied amount recorded for an
    approved ask equals the ask's remaining size, in the contract's base denomination -/
theorem C08_tracks {s : State} (h : Reach s) (k : String) (a : Ask) (ap : String) (conv : Coin)
    (hk : s.asks.get? k = some a) (hc : a.cls = .ready ap conv) :
    conv.amount = a.size ∧ conv.denom = s.info.baseDenom :=
  C08_tracksM (reachM_of_reach h) k a ap conv hk hc

theorem C06_reachableM {s : State} (h : ReachM s) (env : Env) :
    (∀ id a, s.asks.get? id = some a →
      ∃ s' r, execute env s ⟨a.owner, [], .cancelAsk id⟩ = .ok (s', r) ∧
        C06_askExitOK env.contract s id r s' = true) ∧
    (∀ id b, loadBid s id = some b →
      ∃ s' r, execute env s ⟨b.owner, [], .cancelBid id⟩ = .ok (s', r) ∧
        C06_bidExitOK env.contract s id r s' = true) :=
  ⟨fun id a ha => C06_cancel_ask env s id a (reachM_inv h).1 ha,
   fun id b hb => C06_cancel_bid env s id b (reachM_inv h).1 hb⟩

/-- C06 over reachable states: the exits are available in every state reachable from
    instantiation by requests that satisfy the magnitude hypothesis -/
theorem C06_reachable {s : State} (h : Reach s) : sane s = true := reach_sane h

/-- an accepted migration leaves both sides of a sane book as they were, so the shadow book
    stays as it is across it -/
theorem C17_shadow_historyM (s : State) (L : Ledger) (sh : Shadow) (hist : List Ev)
    (hs : sane s = true) (hrel : ShadowRel sh s) (hg : GoodHistM s hist) :
    ∃ sh', ShadowRel sh' (runHistM s L hist).1 :=
  (runHistM_inv (P := fun s _ => ∃ sh, ShadowRel sh s)
    (fun hs ⟨sh, hrel⟩ hg hx => ⟨_, C17_shadow_step _ _ _ _ _ sh hs hg.1 hrel hx⟩)
    (fun hs ⟨sh, hrel⟩ hx => by
      obtain ⟨ha, hb⟩ := migrate_book_same _ _ _ _ _ hs hx
      exact ⟨sh, fun k => by rw [ha]; exact hrel.asks k, fun k => by rw [hb]; exact hrel.bids k⟩)
    hist hs ⟨sh, hrel⟩ hg).2

/-- … and so along every history from instantiation (the shadow starts empty) -/
theorem C17_shadow_history (s : State) (L : Ledger) (sh : Shadow) (hist : List (Env × Call))
    (hs : sane s = true) (hrel : ShadowRel sh s) (hg : GoodHist s hist) :
    ∃ sh', ShadowRel sh' (runHist s L hist).1 := by
  rw [runHist_eq_runHistM]
  exact C17_shadow_historyM s L sh _ hs hrel ((goodHist_iff_goodHistM s hist).mp hg)

/-- one accepted request (with the magnitude hypothesis F6 on matches) -/
def Step (s s' : State) : Prop :=
  ∃ env c r, ExactStep s c.msg ∧ execute env s c = .ok (s', r)

/-- a run of accepted requests during which the ask under key `k` stays on the book -/
inductive AskLife (k : String) (s : State) (a : Ask) : State → Ask → Prop
  | start : s.asks.get? k = some a → AskLife k s a s a
  | next {t u : State} {b b' : Ask} : AskLife k s a t b → Step t u → u.asks.get? k = some b' →
      AskLife k s a u b'

inductive BidLife (k : String) (s : State) (e : BidEntry) : State → BidEntry → Prop
  | start : s.bids.get? k = some e → BidLife k s e s e
  | next {t u : State} {f f' : BidEntry} : BidLife k s e t f → Step t u → u.bids.get? k = some f' →
      BidLife k s e u f'

theorem sane_of_step {t u : State} (ht : sane t = true) (st : Step t u) : sane u = true := by
  obtain ⟨env, c, r, hx, he⟩ := st
  exact Sane_step env t u c r ht hx he

theorem askLife_sane {k : String} {s u : State} {a b : Ask} (hs : sane s = true) (h : AskLife k s a u b) :
    sane u = true ∧ u.asks.get? k = some b := by
  induction h with
  | start ha => exact ⟨hs, ha⟩
  | next _ st hb ih => exact ⟨sane_of_step ih.1 st, hb⟩

theorem bidLife_sane {k : String} {s u : State} {e f : BidEntry} (hs : sane s = true) (h : BidLife k s e u f) :
    sane u = true ∧ u.bids.get? k = some f := by
  induction h with
  | start ha => exact ⟨hs, ha⟩
  | next _ st hb ih => exact ⟨sane_of_step ih.1 st, hb⟩

/-- C11 over histories (asks): from the moment an ask is recorded, for as long as it stays on
    the book – through any number of accepted requests of any kind, by anyone – its id, owner,
    denominations and price never change, its size never grows and its class changes at most
    from pending to approved -/
theorem C11_ask_history {k : String} {s u : State} {a b : Ask} (hs : sane s = true)
    (h : AskLife k s a u b) : askImmutable a b = true := by
  induction h with
  | start _ => exact askImmutable_refl a
  | next hl st hb ih =>
    obtain ⟨env, c, r, hx, he⟩ := st
    obtain ⟨hst, hbt⟩ := askLife_sane hs hl
    exact askImmutable_trans ih (C11_ask_immutable env _ _ c r hst he k _ _ hbt hb)

/-- C11 over histories (bids) -/
theorem C11_bid_history {k : String} {s u : State} {e f : BidEntry} (hs : sane s = true)
    (h : BidLife k s e u f) (hv : ∃ b, e = .v3 b) : bidImmutable e f = true := by
  induction h with
  | start _ => obtain ⟨b, rfl⟩ := hv; exact bidImmutable_refl b
  | next hl st hb ih =>
    obtain ⟨env, c, r, hx, he⟩ := st
    obtain ⟨hst, hbt⟩ := bidLife_sane hs hl
    exact bidImmutable_trans ih (C11_bid_immutable env _ _ c r hst he k _ _ hbt hb)

/-- C12 along the life of an ask: from the state in which it is on the book to any later state
    in which it still is, the ask fee rate is the same number, the ask-side required attributes
    are the same, no approver has been dropped and the market parameters are unchanged -/
theorem C12_ask_life {k : String} {s u : State} {a b : Ask} (hs : sane s = true)
    (h : AskLife k s a u b) : TermsKept true false s.info u.info := by
  induction h with
  | start _ => exact .refl (sane_info hs)
  | next hl st _ ih =>
    obtain ⟨env, c, r, _, he⟩ := st
    obtain ⟨hst, hget⟩ := askLife_sane hs hl
    exact ih.trans (C12_step_terms env _ _ c r hst he) (fun _ => isEmpty_false_of_get hget) nofun

/-- C12 along the life of a bid -/
theorem C12_bid_life {k : String} {s u : State} {e f : BidEntry} (hs : sane s = true)
    (h : BidLife k s e u f) : TermsKept false true s.info u.info := by
  induction h with
  | start _ => exact .refl (sane_info hs)
  | next hl st _ ih =>
    obtain ⟨env, c, r, _, he⟩ := st
    obtain ⟨hst, hget⟩ := bidLife_sane hs hl
    exact ih.trans (C12_step_terms env _ _ c r hst he) nofun (fun _ => isEmpty_false_of_get hget)

end Ats.Proofs
