/-
  C10 — Transfer mechanism always matches the denomination's marker type.
-/
import AtsProofs.Effects
namespace Ats.Proofs
open Ats Ats.Spec

theorem msgOK_payMsg (env : Env) (c : Call) (d : String) (n : Nat) (to : String) (hn : 0 < n) :
    msgOK env c (payMsg env d n to) = true := by
  unfold payMsg msgOK
  cases hr : env.restricted d <;> simp [hr, hn]

theorem all_payIfPosR (env : Env) (c : Call) (d : String) (n : Nat) (to : String) :
    (payIfPosMsgsR (env.restricted d) env.contract d n to).all (msgOK env c) = true := by
  unfold payIfPosMsgsR
  by_cases hn : n = 0
  · simp [hn]
  · simp [hn, ← payMsg_eq, msgOK_payMsg env c d n to (Nat.pos_of_ne_zero hn)]

theorem all_pullMsgs (env : Env) (c : Call) (d : String) (n : Nat) (hn : env.restricted d = true → n ≠ 0)
    (he : isEscrowing c.msg = true) :
    (pullMsgs env d n c.sender).all (msgOK env c) = true := by
  unfold pullMsgs
  cases hr : env.restricted d
  · simp
  · have := hn hr
    simp [msgOK, hr, he, Nat.pos_of_ne_zero this]

theorem all_approverMsgs (env : Env) (c : Call) (cls : AskClass) (n : Nat) (hn : 0 < n) :
    (approverMsgs env cls (fun _ => n)).all (msgOK env c) = true := by
  unfold approverMsgs
  cases cls <;> simp [msgOK_payMsg env c _ n _ hn]

theorem all_classMsgList (env : Env) (c : Call) (a : Ask) (b : Bid) (net size : Nat) (hn : 0 < size) :
    (classMsgList env a b (env.restricted a.base) (env.restricted b.quote.denom) net size).all
      (msgOK env c) = true := by
  have hbase : ∀ to, msgOK env c (payMsgR (env.restricted a.base) env.contract a.base size to) = true :=
    fun to => msgOK_payMsg env c a.base size to hn
  unfold classMsgList
  cases a.cls <;>
    simp [all_payIfPosR, hbase, msgOK_payMsg env c _ size _ hn]

/-- C10: every message of an accepted request from a sane state is a bank send from the
    contract of a strictly positive coin in a denomination that is not a restricted marker, or
    a marker transfer of a strictly positive amount with the contract as administrator in a
    denomination that is – drawn from the contract for payouts, from the requesting sender
    (to the contract) on the three escrowing requests; the mechanism is chosen per coin -/
theorem C10_mechanism (env : Env) (s s' : State) (c : Call) (r : Response)
    (hs : sane s = true) (hx : ExactStep s c.msg)
    (h : execute env s c = .ok (s', r)) : C10_msgsOK env c r = true := by
  unfold C10_msgsOK
  cases effect hs hx h with
  | createAsk id base quote price size hm h =>
    obtain ⟨_, _, _, _, _, _, _, _, hz, _, hmsgs, _⟩ := createAsk_ok h
    rw [hmsgs]; exact all_pullMsgs env c base size hz (by simp [hm, isEscrowing])
  | createBid id base fee price quote qs size hm h =>
    obtain ⟨_, _, _, _, _, _, _, _, _, _, _, _, _, _, _, _, _, _, _, hz, _, hr⟩ := createBid_ok h
    rw [hr]; exact all_pullMsgs env c quote _ hz (by simp [hm, isEscrowing])
  | approveAsk id base size hm h =>
    obtain ⟨a, _, _, _, _, _, _, hz, _, hr⟩ := approveAsk_ok h
    rw [hr]; exact all_pullMsgs env c base size hz (by simp [hm, isEscrowing])
  | askReversal id requested a h =>
    rw [h.msgs]
    simp only [List.all_cons, Bool.and_eq_true]
    exact ⟨msgOK_payMsg env c _ _ _ h.cut.pos, all_approverMsgs env c _ _ h.cut.pos⟩
  | bidReversal id requested b bp q f h =>
    rw [h.msgs]
    simp only [List.all_cons, Bool.and_eq_true]
    exact ⟨msgOK_payMsg env c _ _ _ h.pos, all_payIfPosR env c _ _ _⟩
  | fill askId bidId price size a b bp m h =>
    rw [h.msgs]
    simp only [List.all_append, Bool.and_eq_true]
    refine ⟨⟨⟨?_, all_payIfPosR env c _ _ _⟩, all_classMsgList env c _ b _ size h.askCut.pos⟩, ?_⟩
    · unfold askFeeMsgList
      cases s.info.askFee with
      | none => rfl
      | some fi => exact all_payIfPosR env c _ _ _
    · unfold refundMsgList
      simp only [List.all_append, Bool.and_eq_true, h.bidCut.facts.feeDenom]
      refine ⟨all_payIfPosR env c _ _ _, ?_⟩
      split
      · exact all_payIfPosR env c _ _ _
      · rfl
  | modify ap ex ar aa br ba at_ bt _ h =>
    obtain ⟨_, _, _, _, _, _, _, _, _, _, _, _, _, hr⟩ := modifyContract_ok h
    rw [hr]; rfl

end Ats.Proofs
