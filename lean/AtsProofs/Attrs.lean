/-
  AtsProofs.Attrs — reading numbers back from response attributes.
-/
import AtsProofs.Basic
namespace Ats
open Ats Ats.Spec

theorem digitsVal_eq : ∀ (cs : List Char) (acc : Nat), (∀ c ∈ cs, c.isDigit = true) →
    digitsVal cs acc = some (Nat.ofDigitChars 10 cs acc) := by
  intro cs
  induction cs with
  | nil => intro acc _; simp [digitsVal]
  | cons c rest ih =>
    intro acc h
    have hc : c.isDigit = true := h c (by simp)
    unfold digitsVal
    simp only [hc, if_true]
    rw [ih _ (fun x hx => h x (by simp [hx])), Nat.ofDigitChars_cons]
    have : '0'.toNat = 48 := by decide
    rw [this, Nat.mul_comm]

@[simp] theorem digitsVal_toDigits (n : Nat) : digitsVal (Nat.toDigits 10 n) 0 = some n := by
  rw [digitsVal_eq _ _ (fun c hc => Nat.isDigit_of_mem_toDigits (by decide) (by decide) hc),
    Nat.ofDigitChars_ten_toDigits]

/-- a number written with `toString` is read back by `numAttr` -/
theorem numVal_toString (n : Nat) :
    (match (toString n).toList with | [] => none | cs => digitsVal cs 0) = some n := by
  rw [Nat.toString_eq_repr, Nat.toList_repr]
  split
  · next h => exact absurd h Nat.toDigits_ne_nil
  · exact digitsVal_toDigits n

theorem numAttr_of_attr {attrs : List (String × String)} {k : String} {n : Nat}
    (h : attr? attrs k = some (toString n)) : numAttr attrs k = some n := by
  have hn := numVal_toString n
  unfold numAttr
  rw [h]
  dsimp only
  -- the two `match`es are different constants; on a variable list they unfold to the same term
  generalize (toString n).toList = cs at hn ⊢
  exact hn

end Ats
