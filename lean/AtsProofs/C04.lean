/-
  C04 — Cancel / expire / reject return exactly the cancelled escrow to its depositor.
-/
import AtsProofs.Effects
namespace Ats.Proofs
open Ats Ats.Spec

theorem askAfterReverse_eq (a : Ask) (c : Nat) :
    askAfterReverse a c = if (a.reduce c).size = 0 then none else some (a.reduce c) := rfl

theorem expCredit_askReversePays (a : Ask) (c : Nat) (x d : String) :
    expCredit (askReversePays a c) x d =
      (if a.owner = x ∧ a.base = d then c else 0) +
      (match a.cls with
       | .ready ap conv => if ap = x ∧ conv.denom = d then c else 0
       | _ => 0) := by
  unfold askReversePays
  cases a.cls <;> simp [expCredit_cons]

theorem C04_askReversal {env : Env} {s s' : State} {c : Call} {r : Response} {id : String}
    {requested : Option Nat} {a : Ask} (h : AskReversal env s c s' r id requested a) :
    C04_askOK env.contract s id requested r s' = true := by
  unfold C04_askOK
  simp only [h.found, h.req_ok, h.cut.le, Bool.and_eq_true, decide_eq_true_eq, Bool.true_and, true_and]
  refine ⟨?_, ?_⟩
  · apply paysExactly_of
    · rw [h.msgs]; exact fromContract_payMsg _ _ _ _ (fromContract_approverMsgs _ _ _)
    · intro x d
      rw [h.msgs, credit_payMsg, credit_approverMsgs, expCredit_askReversePays]
      cases a.cls <;> rfl
  · simp only [h.state, putAsk_get_eq, askAfterReverse_eq, beq_iff_eq]

/-- C04 for expire / reject of an ask: exactly the reversed size of the ask's base goes back
    to its owner and, for an approved convertible ask, the same amount of base denomination to
    its approver; nobody else is paid; the ask shrinks by exactly that and leaves the book at
    zero; a requested size is a positive lot multiple not above the remainder -/
theorem C04_reverse_ask (env : Env) (s s' : State) (c : Call) (r : Response) (id : String)
    (requested : Option Nat) (hs : sane s = true)
    (hm : c.msg = .expireAsk id ∧ requested = none ∨ c.msg = .rejectAsk id requested)
    (h : execute env s c = .ok (s', r)) :
    C04_askOK env.contract s id requested r s' = true := by
  simp only [execute, Res.bind_eq_ok, guardR_eq_ok] at h
  obtain ⟨_, hv, h⟩ := h
  have h' : reverseAsk env s c.sender c.funds id (actionName c.msg) requested = .ok (s', r) := by
    rcases hm with ⟨hm, rfl⟩ | hm <;> rw [hm] at h ⊢ <;> exact h
  obtain ⟨a, ha⟩ := askReversal_reverse hs hv hm h'
  exact C04_askReversal ha

/-- C04 for the owner's cancel of an ask: the whole remaining escrow goes back – the ask's size
    to its owner and the approver-supplied base (equal to the size) to its approver -/
theorem C04_cancel_ask (env : Env) (s s' : State) (c : Call) (r : Response) (id : String)
    (hs : sane s = true) (hm : c.msg = .cancelAsk id)
    (h : execute env s c = .ok (s', r)) :
    C04_askOK env.contract s id none r s' = true := by
  simp only [execute, hm, Res.bind_eq_ok, guardR_eq_ok] at h
  obtain ⟨_, _, h⟩ := h
  obtain ⟨a, ha⟩ := askReversal_cancel hs hm h
  exact C04_askReversal ha

theorem feeBack_of_calcFee {b : Bid} {q f : Nat} (h : calcFee b q = .ok f) : feeBack b q = some f := by
  unfold feeBack
  rcases calcFee_ok.mp h with ⟨hn, rfl⟩ | ⟨fe, need, hf, hsp, rfl⟩
  · simp [hn]
  · by_cases hz : b.remQuote - q = 0
    · have hneed := hsp.hneed
      rw [hz] at hneed
      simp [hf, hz, Dec.feeFor_zero_val hneed]
    · simp [hf, hz, hsp.hneed, hsp.hle]

theorem feeBack_of_cancelFee {b : Bid} {q : Nat} {x : Option Nat} (h : cancelFee b q = .ok x) :
    feeBack b q = some (x.getD 0) :=
  feeBack_of_calcFee (calcFee_of_cancelFee h)

theorem bidAfterReverse_eq (b : Bid) (c cq fb : Nat) :
    bidAfterReverse b c cq fb =
      if (b.accumulate c cq fb).base.amount - (b.accumulate c cq fb).accBase = 0 then none
      else some (.v3 (b.accumulate c cq fb)) := by
  unfold bidAfterReverse Bid.accumulate Bid.remBase
  simp only [Nat.sub_sub]

/-- C04 for bids (cancel by the owner, expire / reject by an executor): exactly price × the
    reversed size of quote, plus the part of the escrowed fee no longer needed for what remains,
    goes back to the bid's owner and to nobody else; the bid's remaining amounts shrink by
    exactly what was returned and a bid reduced to zero leaves the book; a requested size is a
    positive lot multiple not above the remainder.  No magnitude hypothesis: on a sane book the
    products involved are exact. -/
theorem C04_reverse_bid (env : Env) (s s' : State) (c : Call) (r : Response) (id : String)
    (requested : Option Nat) (hs : sane s = true)
    (hm : (c.msg = .cancelBid id ∨ c.msg = .expireBid id) ∧ requested = none ∨
          c.msg = .rejectBid id requested)
    (h : execute env s c = .ok (s', r)) :
    C04_bidOK env.contract s id requested r s' = true := by
  simp only [execute, Res.bind_eq_ok, guardR_eq_ok] at h
  obtain ⟨_, hv, h⟩ := h
  have h' : reverseBid env s c.sender c.funds id (actionName c.msg) requested = .ok (s', r) := by
    rcases hm with ⟨hm | hm, rfl⟩ | hm <;> rw [hm] at h ⊢ <;> exact h
  obtain ⟨b, bp, q, f, hb⟩ := bidReversal hs hv hm h'
  have hc := hb.cut
  unfold C04_bidOK
  simp only [hb.found, hb.req_ok, hc.price, hc.le, hc.whole, ← hc.quote, feeBack_of_calcFee hc.fee,
    Bool.and_eq_true, decide_eq_true_eq, Bool.true_and, true_and]
  refine ⟨?_, ?_⟩
  · apply paysExactly_of
    · rw [hb.msgs]; exact fromContract_payMsg _ _ _ _ (fromContract_payIfPosR _ _ _ _ _)
    · intro x d
      rw [hb.msgs, credit_payMsg, credit_payIfPosR]
      simp [expCredit_cons]
  · simp only [hb.state, putBid_get_eq, bidAfterReverse_eq, beq_iff_eq]

end Ats.Proofs
