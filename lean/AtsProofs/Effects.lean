/-
  AtsProofs.Effects — what an accepted request does to a consistent book.

  Apart from recording a new order and approving an ask, a request changes the book in only two
  ways: `n` units are cut off an ask (`AskCut`: cancel, expire, reject, match), or `n` units are
  cut off a bid (`BidCut`: cancel, expire, reject, match), which then gives up the quote of
  those units *at its own price* and its fee pro rata; a match does both.  Every invariant and
  every property of the later files is proved per cut, not per handler.
-/
import AtsProofs.InvDec
import AtsProofs.Pay
import AtsProofs.DecMono
namespace Ats.Proofs
open Ats Ats.Spec

/-! ### the fee a bid gives up -/

/-- `cancel_fee` and `calculate_fee` are one computation (they differ in the refusal) -/
theorem calcFee_of_cancelFee {b : Bid} {q : Nat} {x : Option Nat} (h : cancelFee b q = .ok x) :
    calcFee b q = .ok (x.getD 0) := by
  rcases cancelFee_ok.mp h with ⟨hn, rfl⟩ | ⟨f, need, hf, hsp, rfl⟩
  · exact calcFee_ok.mpr (Or.inl ⟨hn, rfl⟩)
  · exact calcFee_ok.mpr (Or.inr ⟨f, need, hf, hsp, rfl⟩)

/-- after giving up `q` quote and `f` fee a fee-bearing bid holds exactly the fee the decimal
    pipeline says its unspent quote needs -/
def FeeKept (b : Bid) (q f : Nat) : Prop :=
  ∀ fe, b.fee = some fe → Dec.feeFor fe.amount b.quote.amount (b.remQuote - q) = .ok (b.remFee - f)

theorem remFee_none {b : Bid} (h : b.fee = none) : b.remFee = 0 := by
  simp [Bid.remFee, Bid.feeAmount, h]

/-- the fee `calculate_fee` takes for `q` quote: within what is left, nothing from a fee-less
    bid, everything with the last of the quote, and pro rata -/
theorem calcFee_fee {info : Info} {k : String} {b : Bid} {q f : Nat} (hfb : BidFacts info k b)
    (h : calcFee b q = .ok f) :
    b.accFee + f ≤ b.feeAmount ∧ (b.fee = none → f = 0) ∧ (q = b.remQuote → f = b.remFee) ∧
      FeeKept b q f := by
  have hfl := hfb.fee_le
  rcases calcFee_ok.mp h with ⟨hn, rfl⟩ | ⟨fe, need, hfe, hsp, rfl⟩
  · exact ⟨hfl, fun _ => rfl, fun _ => (remFee_none hn).symm, fun fe hfe => (by rw [hn] at hfe; cases hfe)⟩
  · have hle := hsp.hle
    refine ⟨by unfold Bid.remFee at hle ⊢; omega, fun hn => (by rw [hn] at hfe; cases hfe), fun hq => ?_,
      fun fe' hfe' => ?_⟩
    · have h0 := hsp.hneed
      rw [hq, Nat.sub_self] at h0
      rw [Dec.feeFor_zero_val h0, Nat.sub_zero]
    · rw [hfe] at hfe'; cases hfe'
      rw [Nat.sub_sub_self hle]; exact hsp.hneed

theorem calcFee_mono {b : Bid} {q1 q2 f1 f2 : Nat} (hq : q1 ≤ q2) (h1 : calcFee b q1 = .ok f1)
    (h2 : calcFee b q2 = .ok f2) : f1 ≤ f2 := by
  rcases calcFee_ok.mp h1 with ⟨_, rfl⟩ | ⟨fe, n1, hfe, s1, rfl⟩
  · exact Nat.zero_le _
  · rcases calcFee_ok.mp h2 with ⟨hn, _⟩ | ⟨fe', n2, hfe', s2, rfl⟩
    · rw [hn] at hfe; cases hfe
    · rw [hfe] at hfe'; cases hfe'
      have := Dec.feeFor_mono _ _ _ _ _ _ (by omega : b.remQuote - q2 ≤ b.remQuote - q1) s2.hneed s1.hneed
      omega

/-- the specification's pro-rata split, from the contract's two fee computations -/
theorem bidFeeSplit_of_calcFee {b : Bid} {g o f1 f2 : Nat} (h1 : calcFee b g = .ok f1)
    (h2 : calcFee b o = .ok f2) : bidFeeSplit b g o = some (f1, f2 - f1) := by
  unfold bidFeeSplit
  rcases calcFee_ok.mp h1 with ⟨hn, rfl⟩ | ⟨fe, n1, hfe, s1, rfl⟩
  · rcases calcFee_ok.mp h2 with ⟨_, rfl⟩ | ⟨fe, _, hfe, _⟩
    · simp [hn]
    · rw [hn] at hfe; cases hfe
  · rcases calcFee_ok.mp h2 with ⟨hn, _⟩ | ⟨fe', n2, hfe', s2, rfl⟩
    · rw [hn] at hfe; cases hfe
    · rw [hfe] at hfe'; cases hfe'
      have := s1.hle
      simp only [hfe, s1.hneed, s2.hneed, Option.some.injEq, Prod.mk.injEq, true_and]
      omega

/-! ### the amounts of a match -/

/-- the magnitude hypothesis of one match (DESIGN §4.2, finding F6): the products the match
    forms are computed without rounding by the 96-bit decimal -/
structure ExactMatch (s : State) (b : Bid) (price : String) (size : Nat) : Prop where
  exec : ∀ p, Dec.parse price = some p → exactMul p size = true
  bid : ∀ p bp, Dec.parse price = some p → Dec.parse b.price = some bp → Dec.lt p bp = true →
    exactMul bp size = true
  askFee : ∀ p fi r, Dec.parse price = some p → s.info.askFee = some fi → Dec.parse fi.rate = some r →
    exactMul r (product p size) = true

/-- the magnitude hypothesis of one request: only matches carry one -/
def ExactStep (s : State) (m : ExecMsg) : Prop :=
  match m with
  | .executeMatch _ bidId price size => ∀ b, loadBid s bidId = some b → ExactMatch s b price size
  | _ => True

theorem admissible_exactFee {r : Dec} {g n : Nat} (h : admissibleFee r g = some n) : n = exactFee r g := by
  unfold admissibleFee at h
  simp only at h
  split at h
  · cases h
  · simpa using h.symm

/-- the ask fee the contract takes is the configured rate on the gross proceeds in exact
    arithmetic -/
theorem askFee_exact {s : State} {b : Bid} {price : String} {size gross askFee : Nat} {execP grossD : Dec}
    (hx : ExactMatch s b price size) (hep : Dec.parse price = some execP)
    (hgross : gross = product execP size) (hfr : grossD.hasFract = false)
    (hgu : grossD.toU128 = some gross) (haf : AskFeeIs s.info grossD askFee) :
    askFeeExact s.info gross = askFee := by
  unfold askFeeExact
  unfold AskFeeIs at haf
  cases hfi : s.info.askFee with
  | none => simp only [hfi] at haf ⊢; exact haf.symm
  | some fi =>
    simp only [hfi] at haf ⊢
    obtain ⟨r, hr, hrf⟩ := haf
    obtain ⟨hgn, hgm, _⟩ := Dec.whole_repr hfr hgu
    have hxa := hx.askFee execP fi r hep hfi hr
    rw [← hgross] at hxa
    simp only [hr]
    exact (admissible_exactFee (Dec.rateFee_exact (Dec.parse_scale hr) hgm hgn hxa hrf)).symm

/-- the refund branch of a match: with the refund the bid has given up the fill at its own
    price, and the fee `calculate_fee` takes for that (at an unimproved price nothing is
    refunded) -/
theorem refundPart_amounts {env : Env} {s : State} {b : Bid} {price : String} {size gross bidFee : Nat}
    {execP bidP : Dec} {rp : List Msg × Bid}
    (hx : ExactMatch s b price size) (hep : Dec.parse price = some execP)
    (hbp : Dec.parse b.price = some bidP) (hbpn : bidP.neg = false)
    (hbf : calcFee b gross = .ok bidFee)
    (hrp : refundPart env b (Dec.lt execP bidP) bidP size gross bidFee (env.restricted b.quote.denom) = .ok rp) :
    ∃ refund feeRefund,
      rp = (if Dec.lt execP bidP then refundMsgList env b (env.restricted b.quote.denom) refund feeRefund else [],
            (b.accumulate size gross bidFee).accumulate 0 refund feeRefund) ∧
      calcFee b (gross + refund) = .ok (bidFee + feeRefund) ∧
      (Dec.lt execP bidP = true → wholeProduct bidP size = true ∧ gross + refund = product bidP size) ∧
      (Dec.lt execP bidP = false → refund = 0 ∧ feeRefund = 0) := by
  rcases refundPart_ok.mp hrp with ⟨hni, rfl⟩ | ⟨himp, origD, orig, origFee, fr, ht, hfr, hu, hle, hcf, hfri, rfl⟩
  · exact ⟨0, 0, by simp [hni, Bid.accumulate], hbf, fun h => (by rw [hni] at h; cases h), fun _ => ⟨rfl, rfl⟩⟩
  · obtain ⟨hw, horig⟩ := Dec.total_exact (Dec.parse_scale hbp) hbpn (hx.bid execP bidP hep hbp himp) ht hfr hu
    have hsum : gross + (orig - gross) = orig := by omega
    refine ⟨orig - gross, fr, by rw [himp]; rfl, ?_, fun _ => ⟨hw, by rw [hsum, horig]⟩,
      fun h => (by rw [himp] at h; cases h)⟩
    rw [hsum, hcf]
    -- a fee at the bid price of zero means a fee at the execution price of zero: `calcFee_mono`
    have := calcFee_mono hle hbf hcf
    rcases hfri with ⟨_, _, rfl⟩ | ⟨h0, rfl⟩
    · rw [Nat.add_sub_cancel' this]
    · have : bidFee = 0 := by omega
      rw [this, h0]

/-- a price equal (as a number) to a positive price carries no sign -/
theorem eqv_pos_neg {e a : Dec} (han : a.neg = false) (haz : a.isZero = false)
    (h : Dec.eqv e a = true) : e.neg = false := by
  cases hen : e.neg with
  | false => rfl
  | true =>
    exfalso
    unfold Dec.eqv Dec.num at h
    simp only [hen, han, if_true, Bool.false_eq_true, if_false, beq_iff_eq] at h
    have hpos : 0 < a.mant * 10 ^ e.scale := by
      unfold Dec.isZero at haz
      simp only [beq_eq_false_iff_ne, ne_eq] at haz
      exact Nat.mul_pos (Nat.pos_of_ne_zero haz) (Dec.pow10_pos _)
    omega

/-- the amounts the model settles are the amounts the specification computes from the
    pre-state with exact arithmetic -/
theorem matchAmounts_model {env : Env} {s : State} {a : Ask} {b : Bid} {price : String} {size : Nat}
    {execP bidP grossD : Dec} {gross askFee bidFee : Nat} {rp : List Msg × Bid}
    (hsb : BidFacts s.info b.id b)
    (hx : ExactMatch s b price size)
    (hep : Dec.parse price = some execP) (hbp : Dec.parse b.price = some bidP)
    (hepn : execP.neg = false) (hbpn : bidP.neg = false)
    (hg : Dec.total execP size = .ok grossD) (hfr : grossD.hasFract = false)
    (hgu : grossD.toU128 = some gross)
    (haf : AskFeeIs s.info grossD askFee)
    (hbf : calcFee b gross = .ok bidFee)
    (hrp : refundPart env b (Dec.lt execP bidP) bidP size gross bidFee (env.restricted b.quote.denom) = .ok rp) :
    ∃ refund feeRefund,
      matchAmounts s a b price size = some ⟨gross, askFee, bidFee, refund, feeRefund⟩ ∧
      rp = (if Dec.lt execP bidP then refundMsgList env b (env.restricted b.quote.denom) refund feeRefund else [],
            (b.accumulate size gross bidFee).accumulate 0 refund feeRefund) ∧
      (refund = 0 → feeRefund = 0) := by
  obtain ⟨_, hgross⟩ := Dec.total_exact (Dec.parse_scale hep) hepn (hx.exec execP hep) hg hfr hgu
  obtain ⟨refund, feeRefund, hrpe, hcf, himp, hni⟩ := refundPart_amounts hx hep hbp hbpn hbf hrp
  refine ⟨refund, feeRefund, ?_, hrpe, fun h0 => ?_⟩
  · have horig : (if Dec.lt execP bidP = true then product bidP size else gross) = gross + refund := by
      cases hlt : Dec.lt execP bidP
      · simp [(hni hlt).1]
      · simp [(himp hlt).2]
    unfold matchAmounts
    simp only [hep, hbp, ← hgross, horig, bidFeeSplit_of_calcFee hbf hcf, askFee_exact hx hep hgross hfr hgu haf,
      Nat.add_sub_cancel_left]
  · rw [h0, Nat.add_zero, hbf] at hcf
    have := Res.ok.inj hcf
    omega

/-! ### cutting units off a bid -/

/-- the effect of an accepted request on a bid of a consistent book: `q` quote and `f` fee are
    consumed, within what the bid still holds, all of it when the last unit goes, and the
    unspent quote stays price × unfilled size -/
structure BidEffect (b : Bid) (size q f : Nat) : Prop where
  hq : b.accQuote + q ≤ b.quote.amount
  hf : b.accFee + f ≤ b.feeAmount
  hnone : b.fee = none → f = 0
  hfinal : size = b.remBase → q = b.remQuote ∧ f = b.remFee
  hinv : ∀ bp, Dec.parse b.price = some bp → q * 10 ^ bp.scale = bp.mant * size

theorem product_mono (p : Dec) {a b : Nat} (h : a ≤ b) : product p a ≤ product p b :=
  Nat.div_le_div_right (Nat.mul_le_mul_left _ h)

theorem product_mul {p : Dec} {n : Nat} (hw : wholeProduct p n = true) :
    product p n * 10 ^ p.scale = p.mant * n :=
  Nat.div_mul_cancel (Nat.dvd_of_mod_eq_zero (by simpa [wholeProduct] using hw))

/-- `n` units are cut off the bid `b` under key `k` (filled or reversed): it gives up `q`, the
    quote of those units at its own price `bp`, and `f`, the fee `calculate_fee` takes for `q` -/
structure BidCut (info : Info) (k : String) (b : Bid) (bp : Dec) (n q f : Nat) : Prop where
  facts : BidFacts info k b
  price : Dec.parse b.price = some bp
  le : n ≤ b.remBase
  whole : wholeProduct bp n = true
  quote : q = product bp n
  fee : calcFee b q = .ok f

namespace BidCut
variable {info : Info} {k : String} {b : Bid} {bp : Dec} {n q f : Nat}

theorem quote_le (h : BidCut info k b bp n q f) : q ≤ b.remQuote := by
  rw [h.quote, ← (whole_rem h.facts.qinv h.price).2]; exact product_mono bp h.le

theorem effect (h : BidCut info k b bp n q f) : BidEffect b n q f := by
  obtain ⟨h1, h2, h3, _⟩ := calcFee_fee h.facts h.fee
  have hq := h.facts.quote_le
  have hle := h.quote_le
  refine ⟨by unfold Bid.remQuote at hle; omega, h1, h2, fun hn => ?_, fun bp' hbp' => ?_⟩
  · have : q = b.remQuote := by rw [h.quote, hn]; exact (whole_rem h.facts.qinv h.price).2
    exact ⟨this, h3 this⟩
  · rw [h.price] at hbp'; cases hbp'
    rw [h.quote]; exact product_mul h.whole

theorem kept (h : BidCut info k b bp n q f) : FeeKept b q f := (calcFee_fee h.facts h.fee).2.2.2

end BidCut

/-! ### cutting units off an ask -/

/-- `n` units are cut off the ask `a` under key `k` (cancelled, expired, rejected or filled) -/
structure AskCut (info : Info) (k : String) (a : Ask) (n : Nat) : Prop where
  facts : AskFacts info k a
  pos : 0 < n
  le : n ≤ a.size

/-! ### the effects -/

theorem approverMsgs_congr (env : Env) {cls : AskClass} {f g : Coin → Nat}
    (h : ∀ ap c, cls = .ready ap c → f c = g c) : approverMsgs env cls f = approverMsgs env cls g := by
  unfold approverMsgs
  cases cls with
  | ready ap c => simp only [h ap c rfl]
  | _ => rfl

theorem approverMsgs_reduce (env : Env) (a : Ask) (n m : Nat) :
    approverMsgs env (a.reduce n).cls (fun _ => m) = approverMsgs env a.cls (fun _ => m) := by
  unfold approverMsgs Ask.reduce
  cases a.cls <;> rfl

/-- cancel, expire or reject of an ask on a consistent book: `requested.getD a.size` units go back
    to the owner, and as much of the approver's escrow to the approver -/
structure AskReversal (env : Env) (s : State) (c : Call) (s' : State) (r : Response) (id : String)
    (requested : Option Nat) (a : Ask) : Prop where
  kind : c.msg = .cancelAsk id ∧ requested = none ∨ c.msg = .expireAsk id ∧ requested = none ∨
         c.msg = .rejectAsk id requested
  no_funds : c.funds = []
  found : s.asks.get? id = some a
  cut : AskCut s.info id a (requested.getD a.size)
  req_ok : reqSizeOK requested s.info.increment = true
  state : s' = { s with asks := putAsk s.asks id (a.reduce (requested.getD a.size)) }
  msgs : r.msgs = payMsg env a.base (requested.getD a.size) a.owner ::
                  approverMsgs env a.cls (fun _ => requested.getD a.size)
  attrs : c.msg = .cancelAsk id ∧ r.attrs = [("action", "cancel_ask"), ("id", id)] ∨
          c.msg ≠ .cancelAsk id ∧
          r.attrs = [("action", actionName c.msg), ("id", id),
                     ("reverse_size", toString (requested.getD a.size)),
                     ("order_open", openFlag ((a.reduce (requested.getD a.size)).size != 0))]

theorem askReversal_cancel {env : Env} {s s' : State} {c : Call} {r : Response} {id : String}
    (hs : sane s = true) (hm : c.msg = .cancelAsk id)
    (h : cancelAsk env s c.sender c.funds id = .ok (s', r)) : ∃ a, AskReversal env s c s' r id none a := by
  obtain ⟨a, hf, ha, _, _, _, rfl, rfl⟩ := cancelAsk_ok h
  have hfa := sane_ask_facts hs ha
  refine ⟨a, Or.inl ⟨hm, rfl⟩, hf, ha, ⟨hfa, hfa.size_pos, Nat.le_refl _⟩, rfl, ?_, ?_,
    Or.inl ⟨hm, by rw [hfa.id_eq]⟩⟩
  · simp [putAsk, Ask.reduce, hfa.id_eq]
  · simp only [Option.getD_none]
    rw [approverMsgs_congr env (fun ap cv hc => (hfa.tracks hc).1)]

/-- a requested partial size that passed message validation and the lot check -/
theorem reqSizeOK_of {requested : Option Nat} {inc dflt : Nat} (hv : ∀ k, requested = some k → 1 ≤ k)
    (hinc : requested.isNone = true ∨ requested.getD dflt % inc = 0) (hd : 0 < dflt) :
    reqSizeOK requested inc = true ∧ 0 < requested.getD dflt := by
  cases requested with
  | none => exact ⟨rfl, hd⟩
  | some k =>
    have hk := hv k rfl
    exact ⟨by simpa [reqSizeOK, hk] using hinc, hk⟩

theorem askReversal_reverse {env : Env} {s s' : State} {c : Call} {r : Response} {id : String}
    {requested : Option Nat} (hs : sane s = true) (hv : c.msg.valid = true)
    (hm : c.msg = .expireAsk id ∧ requested = none ∨ c.msg = .rejectAsk id requested)
    (h : reverseAsk env s c.sender c.funds id (actionName c.msg) requested = .ok (s', r)) :
    ∃ a, AskReversal env s c s' r id requested a := by
  obtain ⟨a, hf, _, ha, hinc, hle, _, _, rfl, rfl⟩ := reverseAsk_ok h
  have hfa := sane_ask_facts hs ha
  have hreq : reqSizeOK requested s.info.increment = true ∧ 0 < requested.getD a.size := by
    rcases hm with ⟨_, rfl⟩ | hm
    · exact ⟨rfl, hfa.size_pos⟩
    · refine reqSizeOK_of (fun k hk => ?_) hinc hfa.size_pos
      rw [hm, hk] at hv
      exact (by simpa [ExecMsg.valid] using hv : _ ∧ 1 ≤ k).2
  refine ⟨a, Or.inr hm, hf, ha, ⟨hfa, hreq.2, hle⟩, hreq.1, by rw [hfa.id_eq],
    by rw [approverMsgs_reduce], Or.inr ⟨by rcases hm with ⟨hm, _⟩ | hm <;> rw [hm] <;> nofun, rfl⟩⟩

/-- cancel, expire or reject of a bid on a consistent book: the quote of `requested.getD b.remBase`
    units at the bid's price and the fee no longer needed go back to the owner -/
structure BidReversal (env : Env) (s : State) (c : Call) (s' : State) (r : Response) (id : String)
    (requested : Option Nat) (b : Bid) (bp : Dec) (q f : Nat) : Prop where
  kind : (c.msg = .cancelBid id ∨ c.msg = .expireBid id) ∧ requested = none ∨ c.msg = .rejectBid id requested
  no_funds : c.funds = []
  found : loadBid s id = some b
  cut : BidCut s.info id b bp (requested.getD b.remBase) q f
  req_ok : reqSizeOK requested s.info.increment = true
  pos : 0 < q
  state : s' = { s with bids := putBid s.bids id (b.accumulate (requested.getD b.remBase) q f) }
  msgs : r.msgs = payMsg env b.quote.denom q b.owner ::
                  payIfPosMsgsR (env.restricted b.quote.denom) env.contract b.quote.denom f b.owner
  attrs : r.attrs = [("action", actionName c.msg), ("id", id),
                     ("reverse_size", toString (requested.getD b.remBase)),
                     ("order_open", openFlag (b.base.amount - (b.accBase + requested.getD b.remBase) != 0))]

theorem product_pos {p : Dec} {n : Nat} (hm : p.isZero = false) (hn : 0 < n) (hw : wholeProduct p n = true) :
    0 < product p n := by
  have hp : 0 < p.mant := Nat.pos_of_ne_zero (by simpa [Dec.isZero] using hm)
  have : 0 < product p n * 10 ^ p.scale := by rw [product_mul hw]; exact Nat.mul_pos hp hn
  exact Nat.pos_of_mul_pos_right this

theorem bidReversal {env : Env} {s s' : State} {c : Call} {r : Response} {id : String}
    {requested : Option Nat} (hs : sane s = true) (hv : c.msg.valid = true)
    (hm : (c.msg = .cancelBid id ∨ c.msg = .expireBid id) ∧ requested = none ∨ c.msg = .rejectBid id requested)
    (h : reverseBid env s c.sender c.funds id (actionName c.msg) requested = .ok (s', r)) :
    ∃ b bp q f, BidReversal env s c s' r id requested b bp q f := by
  obtain ⟨b, p, tq, q, fee, hf, hb, _, _, hinc, hle, hpp, htq, hfr, hu, hcf, _, rfl, rfl⟩ := reverseBid_ok h
  have hfb := sane_bid_v3 hs hb
  obtain ⟨p', hp', hpz, hpn, _⟩ := priceOK_parse hfb.price_ok
  rw [hpp] at hp'; cases hp'
  have hrem : 0 < b.remBase := by have := hfb.base_lt; unfold Bid.remBase; omega
  have hreq : reqSizeOK requested s.info.increment = true ∧ 0 < requested.getD b.remBase := by
    rcases hm with ⟨_, rfl⟩ | hm
    · exact ⟨rfl, hrem⟩
    · refine reqSizeOK_of (fun k hk => ?_) hinc hrem
      rw [hm, hk] at hv
      exact (by simpa [ExecMsg.valid] using hv : _ ∧ 1 ≤ k).2
  -- the whole remainder is whole by the quote invariant, a requested size because it is a lot multiple
  have hw : wholeProduct p (requested.getD b.remBase) = true := by
    cases requested with
    | none => exact (whole_rem hfb.qinv hpp).1
    | some k => exact whole_lot (sane_info hs) hfb.price_ok hpp (by simpa using hinc)
  have hlim : requested.getD b.remBase < LIM := by
    have := hfb.base_lim; unfold Bid.remBase at hle ⊢; omega
  obtain ⟨_, hq⟩ := Dec.total_exact (Dec.parse_scale hpp) hpn (exactMul_of_whole hlim hw) htq hfr hu
  exact ⟨b, p, q, fee.getD 0, hm, hf, hb, ⟨hfb, hpp, hle, hw, hq, calcFee_of_cancelFee hcf⟩, hreq.1,
    by rw [hq]; exact product_pos hpz hreq.2 hw, by rw [hfb.id_eq], rfl, rfl⟩

/-- a match on a consistent book, under the magnitude hypothesis: the amounts are those of the
    specification (`matchAmounts`), the ask is cut by `size`, the bid by `size` at its own price -/
structure Fill (env : Env) (s : State) (c : Call) (s' : State) (r : Response) (askId bidId price : String)
    (size : Nat) (a : Ask) (b : Bid) (bp : Dec) (m : MatchAmounts) : Prop where
  kind : c.msg = .executeMatch askId bidId price size
  no_funds : c.funds = []
  ask : s.asks.get? askId = some a
  bid : loadBid s bidId = some b
  quote : a.quote = b.quote.denom
  ready : a.cls ≠ .pending
  askCut : AskCut s.info askId a size
  bidCut : BidCut s.info bidId b bp size (m.gross + m.refund) (m.bidFee + m.feeRefund)
  amounts : matchAmounts s a b price size = some m
  fee_le : m.askFee ≤ m.gross
  no_ask_fee : s.info.askFee = none → m.askFee = 0
  bid_fee_acct : m.bidFee ≠ 0 → s.info.bidFee.isSome = true
  refund_fee : m.refund = 0 → m.feeRefund = 0
  state : s' = { s with asks := putAsk s.asks askId (a.reduce size),
                        bids := putBid s.bids bidId
                          (b.accumulate size (m.gross + m.refund) (m.bidFee + m.feeRefund)) }
  msgs : r.msgs =
    askFeeMsgList env s.info (env.restricted b.quote.denom) m.askFee b.quote.denom ++
    payIfPosMsgsR (env.restricted b.quote.denom) env.contract b.quote.denom m.bidFee
      ((s.info.bidFee.map (·.account)).getD "") ++
    classMsgList env (a.reduce size) b (env.restricted a.base) (env.restricted b.quote.denom)
      (m.gross - m.askFee) size ++
    refundMsgList env b (env.restricted b.quote.denom) m.refund m.feeRefund
  attrs : r.attrs = [("action", "execute"), ("ask_id", askId), ("bid_id", bidId), ("base", b.base.denom),
                     ("quote", a.quote), ("price", price), ("size", toString size),
                     ("ask_fee", toString m.askFee), ("bid_fee", toString m.bidFee)]

theorem fill {env : Env} {s s' : State} {c : Call} {r : Response} {askId bidId price : String} {size : Nat}
    (hs : sane s = true) (hv : c.msg.valid = true) (hm : c.msg = .executeMatch askId bidId price size)
    (hx : ∀ b, loadBid s bidId = some b → ExactMatch s b price size)
    (h : executeMatch env s c.sender c.funds askId bidId price size = .ok (s', r)) :
    ∃ a b bp m, Fill env s c s' r askId bidId price size a b bp m := by
  obtain ⟨a, b, askP, bidP, execP, grossD, gross, askFee, bidFee, m2, m3, rp, _, hf, ha, hb, hq,
    hap, hbp, hep, hpr, _, hsa, hsb, hg, hfr, hgu, haf, hle, hbf, hm2, hm3, hrp, rfl, rfl⟩ :=
    executeMatch_ok h
  have hfa := sane_ask_facts hs ha
  have hfb := sane_bid_v3 hs hb
  obtain ⟨bp', hbp', hbpz, hbpn, _⟩ := priceOK_parse hfb.price_ok
  rw [hbp] at hbp'; cases hbp'
  obtain ⟨ap', hap', hapz, hapn, _⟩ := priceOK_parse hfa.price_ok
  rw [hap] at hap'; cases hap'
  -- the execution price equals one of the two (positive) limit prices
  have hepn : execP.neg = false := by
    rcases priceRule_ok.mp hpr with ⟨_, he | he⟩ | ⟨_, _, he⟩
    · exact eqv_pos_neg hapn hapz he
    · exact eqv_pos_neg hbpn hbpz he
    · exact eqv_pos_neg hapn hapz he
  have hx := hx b hb
  obtain ⟨hwx, hgross⟩ := Dec.total_exact (Dec.parse_scale hep) hepn (hx.exec execP hep) hg hfr hgu
  obtain ⟨refund, feeRefund, hma, hrpe, hzero⟩ :=
    matchAmounts_model (a := a) (by rw [hfb.id_eq]; exact hfb) hx hep hbp hepn hbpn hg hfr hgu haf hbf hrp
  obtain ⟨refund', feeRefund', hrpe', hcf, himp, hni⟩ := refundPart_amounts hx hep hbp hbpn hbf hrp
  obtain ⟨rfl, rfl⟩ : refund = refund' ∧ feeRefund = feeRefund' := by
    have := congrArg Prod.snd (hrpe.symm.trans hrpe')
    simp only [Bid.accumulate, Bid.mk.injEq] at this
    omega
  -- at its own price the bid gives up `gross + refund`
  have hown : wholeProduct bidP size = true ∧ gross + refund = product bidP size := by
    cases hlt : Dec.lt execP bidP with
    | true => exact himp hlt
    | false =>
      have heqv : Dec.eqv execP bidP = true := by
        rcases priceRule_ok.mp hpr with ⟨hab, he | he⟩ | ⟨_, hab, he⟩
        · have := Dec.lt_of_eqv_lt hepn hapn hbpn he hab
          rw [hlt] at this; cases this
        · exact he
        · exact Dec.eqv_trans hepn hapn hbpn he hab
      obtain ⟨hwb, hpb⟩ := Dec.product_eqv hepn hbpn heqv hwx
      exact ⟨hwb, by rw [(hni hlt).1, Nat.add_zero, hgross, hpb]⟩
  obtain ⟨hnp, _, _, rfl⟩ := classMsgs_ok.mp hm3
  have hsz : 0 < size := by
    rw [hm] at hv; exact (by simpa [ExecMsg.valid] using hv : _ ∧ 1 ≤ size).2
  refine ⟨a, b, bidP, ⟨gross, askFee, bidFee, refund, feeRefund⟩, hm, hf, ha, hb, hq,
    fun hp => hnp (by simp [Ask.reduce, hp]), ⟨hfa, hsz, hsa⟩,
    ⟨hfb, hbp, hsb, hown.1, hown.2, hcf⟩, hma, hle, ?_, ?_, hzero, ?_, ?_, rfl⟩
  · intro h0; unfold AskFeeIs at haf; simpa [h0] using haf
  · intro h0
    rcases bidFeeMsgs_ok.mp hm2 with ⟨hz, _⟩ | ⟨_, fi, hfi, _⟩
    · exact absurd hz h0
    · simp [hfi]
  · rw [hrpe]; simp [Bid.accumulate, Nat.add_assoc]
  · have hm2' : m2 = payIfPosMsgsR (env.restricted b.quote.denom) env.contract b.quote.denom bidFee
        ((s.info.bidFee.map (·.account)).getD "") := by
      rcases bidFeeMsgs_ok.mp hm2 with ⟨hz, rfl⟩ | ⟨hn, fi, hfi, rfl⟩
      · simp [payIfPosMsgsR, hz]
      · simp [payIfPosMsgsR, hn, hfi, hfb.feeDenom]
    have hrp1 : rp.1 = refundMsgList env b (env.restricted b.quote.denom) refund feeRefund := by
      rw [hrpe]
      cases hlt : Dec.lt execP bidP with
      | true => rfl
      | false =>
        obtain ⟨rfl, rfl⟩ := hni hlt
        simp [refundMsgList, payIfPosMsgsR]
    simp only [hm2', hrp1]

/-- what an accepted request does to a consistent book -/
inductive Effect (env : Env) (s : State) (c : Call) (s' : State) (r : Response) : Prop
  | createAsk (id base quote price : String) (size : Nat)
      (hm : c.msg = .createAsk id base quote price size)
      (h : createAsk env s c.sender c.funds id base quote price size = .ok (s', r))
  | createBid (id base : String) (fee : Option Coin) (price quote : String) (qs size : Nat)
      (hm : c.msg = .createBid id base fee price quote qs size)
      (h : createBid env s c.sender c.funds id base fee price quote qs size = .ok (s', r))
  | approveAsk (id base : String) (size : Nat) (hm : c.msg = .approveAsk id base size)
      (h : approveAsk env s c.sender c.funds id base size = .ok (s', r))
  | askReversal (id : String) (requested : Option Nat) (a : Ask)
      (h : AskReversal env s c s' r id requested a)
  | bidReversal (id : String) (requested : Option Nat) (b : Bid) (bp : Dec) (q f : Nat)
      (h : BidReversal env s c s' r id requested b bp q f)
  | fill (askId bidId price : String) (size : Nat) (a : Ask) (b : Bid) (bp : Dec) (m : MatchAmounts)
      (h : Fill env s c s' r askId bidId price size a b bp m)
  | modify (ap ex : Option (List String)) (ar aa br ba : Option String) (at_ bt : Option (List String))
      (hm : c.msg = .modify ap ex ar aa br ba at_ bt)
      (h : modifyContract env s c.sender c.funds ap ex ar aa br ba at_ bt = .ok (s', r))

theorem effect {env : Env} {s s' : State} {c : Call} {r : Response} (hs : sane s = true)
    (hx : ExactStep s c.msg) (h : execute env s c = .ok (s', r)) : Effect env s c s' r := by
  obtain ⟨hv, hacc⟩ := execute_ok h
  cases hacc with
  | createAsk id base quote price size hm h => exact .createAsk id base quote price size hm h
  | createBid id base fee price quote qs size hm h => exact .createBid id base fee price quote qs size hm h
  | approveAsk id base size hm h => exact .approveAsk id base size hm h
  | cancelAsk id hm h =>
    obtain ⟨a, ha⟩ := askReversal_cancel hs hm h
    exact .askReversal id none a ha
  | reverseAsk id requested hm h =>
    obtain ⟨a, ha⟩ := askReversal_reverse hs hv hm h
    exact .askReversal id requested a ha
  | reverseBid id requested hm h =>
    obtain ⟨b, bp, q, f, hb⟩ := bidReversal hs hv hm h
    exact .bidReversal id requested b bp q f hb
  | executeMatch askId bidId price size hm h =>
    rw [hm] at hx
    obtain ⟨a, b, bp, m, hf⟩ := fill hs hv hm hx h
    exact .fill askId bidId price size a b bp m hf
  | modify ap ex ar aa br ba at_ bt hm h => exact .modify ap ex ar aa br ba at_ bt hm h

end Ats.Proofs
