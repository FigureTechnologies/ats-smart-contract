/-
  AtsProofs.Witness — non-vacuity.  One concrete history, from instantiation: twelve requests of
  nine kinds (all but `cancelAsk` and `expireBid`), each accepted from a state that satisfies the
  hypotheses the property theorems carry (`sane`, `ExactStep`, `NoSelfPay`, sender ≠ contract,
  `feeExact`).  This is closed by kernel evaluation (`decide +kernel`) of the executable model:
  the whole history in one evaluated statement (`run_calls`), from which the facts about a
  single request are read off (`step_at`).  So the hypotheses of the theorems are jointly
  satisfiable on non-trivial states (fees on both sides, a price improvement with a rounded fee
  share, a partial reject, an approved convertible ask), and none of the implications is
  vacuous.  The property theorems are then *applied* to these states, which also cross-checks
  each theorem's conclusion against direct evaluation of the same predicate.
-/
import AtsProofs.C01b
import AtsProofs.C02
import AtsProofs.C03
import AtsProofs.C04
import AtsProofs.C06
import AtsProofs.C07
import AtsProofs.C09
import AtsProofs.C10
import AtsProofs.C12
import AtsProofs.C14
import AtsProofs.C16
import AtsProofs.C17
import AtsProofs.C08
import AtsProofs.History
namespace Ats.Proofs.Witness
open Ats Ats.Spec Ats.Dec Ats.Proofs

def env : Env :=
  { contract := "contract", restricted := fun d => d == "rquote",
    attrs := fun a => if a == "nobody" then none else some ["kyc"],
    validAddr := fun a => decide (a.length ≥ 3), pkgVersion := "0.19.2", crateName := "ats-smart-contract" }

def inst : InstMsg :=
  { name := "ats", baseDenom := "base", convertible := ["conv"], quotes := ["quote", "rquote"],
    approvers := ["approver"], executors := ["exec"],
    askRate := some "0.1", askAcct := some "askfee", bidRate := some "0.1", bidAcct := some "bidfee",
    askAttrs := ["kyc"], bidAttrs := [], precision := 1, increment := 10 }

def A1 := "00000000-0000-0000-0000-0000000000a1"
def A2 := "00000000-0000-0000-0000-0000000000a2"
def B1 := "00000000-0000-0000-0000-0000000000b1"
def B2 := "00000000-0000-0000-0000-0000000000b2"

/-- the history (all accepted) -/
def calls : List Call :=
  [ ⟨"seller", [⟨"base", 20⟩], .createAsk A1 "base" "quote" "2.5" 20⟩,
    -- bid 30 @ 3: total 90, fee 0.1 × 90 = 9
    ⟨"buyer", [⟨"quote", 99⟩], .createBid B1 "base" (some ⟨"quote", 9⟩) "3" "quote" 90 30⟩,
    -- match 10 @ 2.5 (price improvement): gross 25, ask fee 2.5 → 3, bid fee 3, refund 5
    ⟨"exec", [], .executeMatch A1 B1 "2.5" 10⟩,
    ⟨"exec", [], .rejectBid B1 (some 10)⟩,
    ⟨"seller2", [⟨"conv", 20⟩], .createAsk A2 "conv" "quote" "3" 20⟩,
    ⟨"approver", [⟨"base", 20⟩], .approveAsk A2 "base" 20⟩,
    ⟨"exec", [], .rejectAsk A2 (some 10)⟩,
    -- match the approved convertible ask at the common price
    ⟨"exec", [], .executeMatch A2 B1 "3" 10⟩,
    -- a bid in a restricted quote denomination: pulled in, no funds attached
    ⟨"buyer", [], .createBid B2 "base" (some ⟨"rquote", 3⟩) "2.5" "rquote" 25 10⟩,
    ⟨"exec", [], .modify (some ["approver", "approver2"]) none none none none none none none⟩,
    ⟨"exec", [], .expireAsk A1⟩,
    ⟨"buyer", [], .cancelBid B2⟩ ]

def s0 : State := match instantiate env inst with | .ok (s, _) => s | .err _ => default

/-- the state after a request (unchanged when it is refused) -/
def next (s : State) (c : Call) : State :=
  match execute env s c with
  | .ok (s', _) => s'
  | .err _ => s

theorem next_eq {s s' : State} {c : Call} {r : Response} (h : execute env s c = .ok (s', r)) :
    next s c = s' := by unfold next; rw [h]

/-- state after the first `n` requests -/
def at' : Nat → State
  | 0 => s0
  | n + 1 => match calls[n]? with
    | some c => next (at' n) c
    | none => at' n

/-- decidable sufficient condition for `ExactMatch` -/
def exactMatchB (s : State) (b : Bid) (price : String) (size : Nat) : Bool :=
  match Dec.parse price with
  | none => true
  | some p =>
    exactMul p size &&
    (match Dec.parse b.price with
     | some bp => !Dec.lt p bp || exactMul bp size
     | none => true) &&
    (match s.info.askFee with
     | some fi => (match Dec.parse fi.rate with | some r => exactMul r (product p size) | none => true)
     | none => true)

theorem exactMatch_of_B {s : State} {b : Bid} {price : String} {size : Nat}
    (h : exactMatchB s b price size = true) : ExactMatch s b price size := by
  unfold exactMatchB at h
  refine ⟨fun p hp => ?_, fun p bp hp hbp hlt => ?_, fun p fi r hp hfi hr => ?_⟩
  all_goals simp only [hp, Bool.and_eq_true] at h
  · exact h.1.1
  · simpa only [hbp, hlt, Bool.not_true, Bool.false_or] using h.1.2
  · simpa only [hfi, hr] using h.2

/-- decidable form of `ExactStep` -/
def exactStepB (s : State) : ExecMsg → Bool
  | .executeMatch _ bidId price size =>
    (match loadBid s bidId with
     | some b => exactMatchB s b price size
     | none => true)
  | _ => true

theorem exactStep_of_B {s : State} {m : ExecMsg} (h : exactStepB s m = true) : ExactStep s m := by
  cases m with
  | executeMatch _ bidId price size =>
    intro b hb
    simp only [exactStepB, hb] at h
    exact exactMatch_of_B h
  | _ => trivial

/-- decidable form of `NoSelfPay` -/
def noSelfPayB (contract : String) (msgs : List Msg) : Bool :=
  msgs.all fun m => match flowOf contract m with
    | some f => !(f.frm == contract) || !(f.to == contract)
    | none => true

theorem noSelfPay_of_B {c : String} {msgs : List Msg} (h : noSelfPayB c msgs = true) : NoSelfPay c msgs := by
  intro m hm f hf hfrm hto
  have := List.all_eq_true.mp h m hm
  simp [hf, hfrm, hto] at this

/-! ### the history is accepted, request by request, from states meeting every hypothesis -/

/-- instantiation is accepted -/
theorem inst_ok : (instantiate env inst).isOk = true := by decide +kernel

/-- evaluated of every state of the history: the book is consistent and fee-exact -/
def stateOK (s : State) : Bool := sane s && feeExact s

/-- evaluated of a request `c` made in state `s`: the magnitude hypothesis holds, the sender is not
    the contract, the request is accepted, the contract never pays itself, and the conclusion of
    `C01_step` holds in each of the four denominations -/
def stepOK (s : State) (c : Call) : Bool :=
  exactStepB s c.msg && c.sender != env.contract &&
  match execute env s c with
  | .ok (s', r) => noSelfPayB env.contract r.msgs &&
      List.all ["base", "conv", "quote", "rquote"] fun d => C01_denomOK env.contract s c r s' d
  | .err _ => false

/-- every state the requests `cs` lead through from `s` is `stateOK` (the last one too) and every
    request is `stepOK` in the state it is made in -/
def checkedRun (s : State) (cs : List Call) : Bool :=
  stateOK s &&
  match cs with
  | [] => true
  | c :: cs => stepOK s c && checkedRun (next s c) cs

/-- The one evaluation of the history.  It is one term because the kernel remembers what it has
    evaluated only while it checks one declaration: here each state is computed once, from its
    predecessor; a statement about `at' n` alone computes `at' n` from instantiation again. -/
theorem run_calls : checkedRun s0 calls = true := by decide +kernel

theorem checkedRun_sane {s : State} {cs : List Call} (h : checkedRun s cs = true) : sane s = true := by
  unfold checkedRun at h
  simp only [stateOK, Bool.and_eq_true] at h
  exact h.1.1

theorem checkedRun_cons {s : State} {c : Call} {cs : List Call} (h : checkedRun s (c :: cs) = true) :
    ExactStep s c.msg ∧ (∃ r, execute env s c = .ok (next s c, r)) ∧ checkedRun (next s c) cs = true := by
  rw [checkedRun] at h
  simp only [stepOK, Bool.and_eq_true] at h
  obtain ⟨_, ⟨⟨hx, _⟩, hacc⟩, hcs⟩ := h
  refine ⟨exactStep_of_B hx, ?_, hcs⟩
  cases he : execute env s c with
  | err e => rw [he] at hacc; cases hacc
  | ok p => exact ⟨p.2, by rw [next_eq he]⟩

theorem checkedRun_append {s : State} {as bs : List Call} (h : checkedRun s (as ++ bs) = true) :
    checkedRun (as.foldl next s) bs = true := by
  induction as generalizing s with
  | nil => exact h
  | cons a as ih => exact ih (checkedRun_cons h).2.2

theorem checkedRun_reach {s : State} {cs : List Call} (h : checkedRun s cs = true) (hr : Reach s) :
    Reach (cs.foldl next s) := by
  induction cs generalizing s with
  | nil => exact hr
  | cons c cs ih =>
    obtain ⟨hx, ⟨r, he⟩, hcs⟩ := checkedRun_cons h
    exact ih hcs (Reach.step env s (next s c) c r hr hx he)

theorem at'_succ {n : Nat} {c : Call} (hc : calls[n]? = some c) : at' (n + 1) = next (at' n) c := by
  rw [at', hc]

theorem at'_eq_foldl (n : Nat) : at' n = (calls.take n).foldl next s0 := by
  induction n with
  | zero => rw [List.take_zero, List.foldl_nil]; rfl
  | succ n ih =>
    rw [List.take_add_one, List.foldl_append, ← ih, at']
    cases calls[n]? <;> rfl

theorem run_from (n : Nat) : checkedRun (at' n) (calls.drop n) = true := by
  rw [at'_eq_foldl]
  apply checkedRun_append
  rw [List.take_append_drop]
  exact run_calls

theorem sane_at (n : Nat) : sane (at' n) = true := checkedRun_sane (run_from n)

/-- what the evaluation says of the `n`-th request, in the form the property theorems ask for -/
theorem step_at {n : Nat} {c : Call} (hc : calls[n]? = some c) :
    sane (at' n) = true ∧ ExactStep (at' n) c.msg ∧ ∃ r, execute env (at' n) c = .ok (at' (n + 1), r) := by
  obtain ⟨hn, rfl⟩ := List.getElem?_eq_some_iff.mp hc
  have h := run_from n
  rw [List.drop_eq_getElem_cons hn] at h
  rw [at'_succ hc]
  exact ⟨sane_at n, (checkedRun_cons h).1, (checkedRun_cons h).2.1⟩

theorem reach_s0 : Reach s0 := by
  unfold s0
  cases h : instantiate env inst with
  | ok p => exact Reach.init env inst p.1 p.2 h
  | err e => have := inst_ok; rw [h] at this; cases this

/-- the whole history is a `Reach` derivation: the reachable-state theorems apply to it -/
theorem reach_end : Reach (at' 12) := by
  rw [at'_eq_foldl 12, List.take_of_length_le (Nat.le_refl 12)]
  exact checkedRun_reach run_calls reach_s0

/-- hence the reachable-state theorems speak about it: e.g. the approver amount tracks the size -/
example : ∀ k a ap conv, (at' 12).asks.get? k = some a → a.cls = .ready ap conv →
    conv.amount = a.size ∧ conv.denom = (at' 12).info.baseDenom :=
  fun k a ap conv hk hc => C08_tracks reach_end k a ap conv hk hc

/-- at the end of the history every order has left the book and nothing is owed in any
    denomination: what was escrowed has been paid out exactly (with `C01_history`: holdings 0) -/
theorem end_state : (at' 12).asks.keys = [] ∧ (at' 12).bids.keys = [] ∧
    (List.all ["base", "conv", "quote", "rquote"] fun d => owed (at' 12) d == 0) = true := by
  decide +kernel

/-- after nine requests both sides of the book are populated (two open orders) -/
theorem mid_state : (at' 9).asks.keys = [A1] ∧ (at' 9).bids.keys = [B2] ∧ owed (at' 9) "rquote" = 28 ∧
    owed (at' 9) "base" = 10 := by
  decide +kernel

/-! ### the property theorems applied to the witness (their hypotheses are met) -/

/-- the price-improved match (request 2): settlement predicate via the theorem -/
example : ∃ s' r, execute env (at' 2) ⟨"exec", [], .executeMatch A1 B1 "2.5" 10⟩ = .ok (s', r) ∧
    C02_matchOK env.contract (at' 2) A1 B1 "2.5" 10 r s' = true ∧
    C03_conds (at' 2) "exec" A1 B1 "2.5" 10 = true ∧
    C10_msgsOK env ⟨"exec", [], .executeMatch A1 B1 "2.5" 10⟩ r = true ∧
    C17_attrsOK (at' 2) ⟨"exec", [], .executeMatch A1 B1 "2.5" 10⟩ r s' = true := by
  obtain ⟨hs, hx, r, h⟩ := step_at (n := 2) (c := ⟨"exec", [], .executeMatch A1 B1 "2.5" 10⟩) rfl
  -- not inline: against the goal, `c.sender` would meet "exec" before `c` is known, and the
  -- unifier would unfold `C03_conds` on `at' 2`
  have h3 := C03_only_if env _ _ _ r A1 B1 "2.5" 10 rfl h
  exact ⟨at' 3, r, h, C02_settled env _ _ _ r A1 B1 "2.5" 10 hs rfl hx h, h3,
    C10_mechanism env _ _ _ r hs hx h, C17_truthful env _ _ _ r hs hx h⟩

/-- on that match the fee that leaves the bid is paid out (`C09_fee_leaves`), by direct evaluation:
    the bid held 90 + 9, holds 60 + 6 afterwards (a price improvement of 5 returned, 3 fee
    paid), the ask is owed nothing in the quote denomination -/
example : (match execute env (at' 2) ⟨"exec", [], .executeMatch A1 B1 "2.5" 10⟩ with
    | .ok (s', r) => C09_feeLeavesOK env.contract (at' 2) ⟨"exec", [], .executeMatch A1 B1 "2.5" 10⟩ A1 B1 r s' &&
        bidHeld "quote" (at' 2) B1 == 99 && bidHeld "quote" s' B1 == 66
    | .err _ => false) = true := by decide +kernel

/-- the amounts of that match, computed by the exact-arithmetic specification: gross 25,
    ask fee 3 (2.5 rounded half away from zero), bid fee 3 (the 28-place quotient 65/90 makes the
    fee still needed 6.4999… → 6, one of the two nearest units of the exact tie 6.5), quote
    refund 5, no further fee refund -/
example : ((at' 2).asks.get? A1).bind (fun a => (loadBid (at' 2) B1).bind fun b =>
    matchAmounts (at' 2) a b "2.5" 10) = some ⟨25, 3, 3, 5, 0⟩ := by decide +kernel

/-- partial reject of a bid (request 3) and of an approved convertible ask (request 6) -/
example : ∃ s' r, execute env (at' 3) ⟨"exec", [], .rejectBid B1 (some 10)⟩ = .ok (s', r) ∧
    C04_bidOK env.contract (at' 3) B1 (some 10) r s' = true := by
  obtain ⟨hs, -, r, h⟩ := step_at (n := 3) (c := ⟨"exec", [], .rejectBid B1 (some 10)⟩) rfl
  exact ⟨at' 4, r, h, C04_reverse_bid env _ _ _ r B1 (some 10) hs (Or.inr rfl) h⟩

example : ∃ s' r, execute env (at' 6) ⟨"exec", [], .rejectAsk A2 (some 10)⟩ = .ok (s', r) ∧
    C04_askOK env.contract (at' 6) A2 (some 10) r s' = true ∧ C08_readyTracks s' = true := by
  obtain ⟨hs, -, r, h⟩ := step_at (n := 6) (c := ⟨"exec", [], .rejectAsk A2 (some 10)⟩) rfl
  exact ⟨at' 7, r, h, C04_reverse_ask env _ _ _ r A2 (some 10) hs (Or.inr rfl) h, by decide +kernel⟩

/-- exit liveness on the witness: every open order of the final state can be cancelled -/
example : ∀ k a, (at' 12).asks.get? k = some a →
    ∃ s' r, execute env (at' 12) ⟨a.owner, [], .cancelAsk k⟩ = .ok (s', r) ∧
      C06_askExitOK env.contract (at' 12) k r s' = true :=
  fun k a h => C06_cancel_ask env _ k a (sane_at 12) h

/-- admission (requests 0, 1, 8): plain funds and pull-in of a restricted denomination -/
example : ∃ s' r, execute env (at' 8) ⟨"buyer", [], .createBid B2 "base" (some ⟨"rquote", 3⟩) "2.5" "rquote" 25 10⟩ = .ok (s', r) ∧
    C07_bidOK env (at' 8) ⟨"buyer", [], .createBid B2 "base" (some ⟨"rquote", 3⟩) "2.5" "rquote" 25 10⟩
      B2 "base" (some ⟨"rquote", 3⟩) "2.5" "rquote" 25 10 r s' = true ∧
    r.msgs = [.transfer ⟨"rquote", 28⟩ "contract" "buyer" "contract"] := by
  obtain ⟨-, -, r, h⟩ := step_at (n := 8)
    (c := ⟨"buyer", [], .createBid B2 "base" (some ⟨"rquote", 3⟩) "2.5" "rquote" 25 10⟩) rfl
  -- the bid fee rate in force and the messages of the response, in one evaluation of `at' 8`
  have hev : bidRate (at' 8).info = some ⟨false, 1, 1⟩ ∧
      (execute env (at' 8) ⟨"buyer", [], .createBid B2 "base" (some ⟨"rquote", 3⟩) "2.5" "rquote" 25 10⟩).toOption.map (·.2.msgs)
        = some [.transfer ⟨"rquote", 28⟩ "contract" "buyer" "contract"] := by decide +kernel
  refine ⟨at' 9, r, h, C07_bid_only_if env _ _ _ r B2 "base" (some ⟨"rquote", 3⟩) "2.5" "rquote" 25 10 rfl ?_ h, ?_⟩
  · intro p rate hp hr
    have hp' : Dec.parse "2.5" = some ⟨false, 25, 1⟩ := by decide +kernel
    obtain rfl := Option.some.inj (hp'.symm.trans hp)
    obtain rfl := Option.some.inj (hev.1.symm.trans hr)
    decide +kernel
  · have := hev.2
    rw [h] at this
    exact Option.some.inj this

/-- a request that meets the admission conditions is accepted (converse direction) -/
example : C07_askMustAccept env (at' 0) ⟨"seller", [⟨"base", 20⟩], .createAsk A1 "base" "quote" "2.5" 20⟩
    A1 "base" "quote" "2.5" 20 = true := by decide +kernel

/-- a legal match is carried out (converse direction of C03) on the witness -/
example : C03_mustAccept (at' 2) ⟨"exec", [], .executeMatch A1 B1 "2.5" 10⟩ A1 B1 "2.5" 10 = true := by
  decide +kernel

/-- configuration change with open orders on both sides (request 9): freeze rules apply -/
example : ∃ s' r, execute env (at' 9) ⟨"exec", [], .modify (some ["approver", "approver2"]) none none none none none none none⟩ = .ok (s', r) ∧
    C12_modifyOK (at' 9) (.modify (some ["approver", "approver2"]) none none none none none none none) s' = true := by
  obtain ⟨hs, -, r, h⟩ := step_at (n := 9)
    (c := ⟨"exec", [], .modify (some ["approver", "approver2"]) none none none none none none none⟩) rfl
  have hm := C12_modify env _ _ _ r (sane_info hs) rfl h
  exact ⟨at' 10, r, h, hm⟩

/-- … and a change of the bid fee rate is refused while a bid is open -/
example : (execute env (at' 9) ⟨"exec", [], .modify none none none none (some "0.2") (some "bidfee") none none⟩).isOk = false := by
  decide +kernel

/-! ### migration witness: a book written by version 0.16.3 with an event-log bid -/

def legacy : State :=
  { info := (at' 0).info, version := ⟨"ats-smart-contract", "0.16.3"⟩,
    asks := [(A1, { id := A1, owner := "seller", cls := .basic, base := "base", quote := "quote", price := "2.5", size := 20 })],
    bids := [(B1, .v2 { base := ⟨"base", 30⟩,
                        events := [.fill ⟨"base", 10⟩ (some ⟨"quote", 3⟩) "2.5" ⟨"quote", 25⟩,
                                   .refund none ⟨"quote", 5⟩,
                                   .reject ⟨"base", 10⟩ (some ⟨"quote", 3⟩) ⟨"quote", 30⟩],
                        fee := some ⟨"quote", 9⟩, id := B1, owner := "buyer", price := "3", quote := ⟨"quote", 90⟩ })] }

def mig : MigMsg := { approvers := none, askRate := none, askAcct := none, bidRate := none, bidAcct := none,
                      askAttrs := none, bidAttrs := none }

example : ∃ s' r, migrate env legacy mig = .ok (s', r) ∧ C14_migrateOK env legacy mig s' = true ∧
    C15_bidsOK legacy s' = true ∧
    (loadBid s' B1).map (fun b => (b.remBase, b.remQuote, b.remFee)) = some (10, 30, 3) := by
  have hev : ((migrate env legacy mig).toOption.bind fun p => (loadBid p.1 B1).map (fun b => (b.remBase, b.remQuote, b.remFee)))
      = some (10, 30, 3) := by decide +kernel
  cases h : migrate env legacy mig with
  | err e => rw [h] at hev; cases hev
  | ok p =>
    rw [h] at hev
    exact ⟨p.1, p.2, rfl, C14_effect env _ p.1 mig p.2 h, C15_scope env _ p.1 mig p.2 h, hev⟩

/-- a version before the supported minimum is refused -/
example : (migrate env { legacy with version := ⟨"ats-smart-contract", "0.16.1"⟩ } mig).isOk = false := by
  decide +kernel

end Ats.Proofs.Witness
