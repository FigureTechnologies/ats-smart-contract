/-
  C16 — Queries are read-only and report the book and configuration faithfully.
  (Read-only-ness is by type in the model: `query : State → QueryMsg → Res QueryOut` returns no
  state; on the implementation the harness compares the complete storage around each query.)
-/
import AtsProofs.Inv
import AtsProofs.C06
namespace Ats.Proofs
open Ats Ats.Spec

/-- get-ask / get-bid return exactly the order on the book under the given id and fail for
    any id not on it; the two record queries return exactly the stored records -/
theorem C16_get (s : State) (q : QueryMsg) :
    C16_queryOK s q (query s q).toOption = true := by
  unfold C16_queryOK query
  cases q with
  | getAsk id =>
    by_cases hv : isUuidAnyForm id = true
    · cases ha : s.asks.get? id <;> simp [QueryMsg.valid, hv, ha, guardR, orErr, Res.toOption, bind, Res.bind]
    · simp [QueryMsg.valid, hv, guardR, Res.toOption, bind, Res.bind]
  | getBid id =>
    by_cases hv : isUuidAnyForm id = true
    · cases hb : loadBid s id <;> simp [QueryMsg.valid, hv, hb, guardR, orErr, Res.toOption, bind, Res.bind]
    · simp [QueryMsg.valid, hv, guardR, Res.toOption, bind, Res.bind]
  | getInfo => simp [QueryMsg.valid, guardR, Res.toOption, bind, Res.bind]
  | getVersion => simp [QueryMsg.valid, guardR, Res.toOption, bind, Res.bind]

/-- an id that is not on the book – never used, or closed by a fill, cancel, expiry or reject –
    is not reported -/
theorem C16_closed (s : State) (id : String) :
    (s.asks.get? id = none → ∃ e, query s (.getAsk id) = .err e) ∧
    (s.bids.get? id = none → ∃ e, query s (.getBid id) = .err e) := by
  constructor
  · intro h
    cases hq : query s (.getAsk id) with
    | err e => exact ⟨e, rfl⟩
    | ok out =>
      obtain ⟨_, a, ha, _⟩ := query_ok.mp hq
      rw [h] at ha; cases ha
  · intro h
    cases hq : query s (.getBid id) with
    | err e => exact ⟨e, rfl⟩
    | ok out =>
      obtain ⟨_, b, hb, _⟩ := query_ok.mp hq
      rw [loadBid_some, h] at hb; cases hb

/-- what a query returns is what the next operation acts on: the amounts reported for an ask
    are exactly those an immediately following cancel pays out -/
theorem C16_next_ask (env : Env) (s s' : State) (id : String) (a : Ask) (sender : String) (r : Response)
    (hq : query s (.getAsk id) = .ok (.ask a))
    (hc : cancelAsk env s sender [] id = .ok (s', r)) :
    r.msgs = payMsg env a.base a.size a.owner :: approverMsgs env a.cls (fun c => c.amount) := by
  obtain ⟨a2, _, ha2, _, _, _, _, hr⟩ := cancelAsk_ok hc
  rw [query_getAsk hq] at ha2; cases ha2
  rw [hr]

/-- the amounts reported for a bid – its unspent quote and unspent fee – are exactly those an
    immediately following cancel by its owner pays out, and that cancel succeeds -/
theorem C16_next_bid (env : Env) (s : State) (id : String) (b : Bid) (hs : sane s = true)
    (hq : query s (.getBid id) = .ok (.bid b)) :
    ∃ s' r, execute env s ⟨b.owner, [], .cancelBid id⟩ = .ok (s', r) ∧
      paysExactly env.contract r.msgs
        [(b.owner, b.quote.denom, b.remQuote), (b.owner, b.quote.denom, b.remFee)] = true ∧
      s'.bids.get? id = none := by
  have hb := query_getBid hq
  obtain ⟨s', r, hx, hok⟩ := C06_cancel_bid env s id b hs hb
  exact ⟨s', r, hx, (bidExitOK_iff hb).mp hok⟩

/-- the same through expiry: what the bid query reports is what an executor's expiry returns to
    the owner, and that expiry succeeds -/
theorem C16_next_bid_expire (env : Env) (s : State) (id exec : String) (b : Bid) (hs : sane s = true)
    (hq : query s (.getBid id) = .ok (.bid b)) (hex : memS exec s.info.executors = true) :
    ∃ s' r, execute env s ⟨exec, [], .expireBid id⟩ = .ok (s', r) ∧
      paysExactly env.contract r.msgs
        [(b.owner, b.quote.denom, b.remQuote), (b.owner, b.quote.denom, b.remFee)] = true ∧
      s'.bids.get? id = none := by
  have hb := query_getBid hq
  obtain ⟨s', r, hx, hok⟩ := C06_expire_bid env s id exec b hs hb hex
  exact ⟨s', r, hx, (bidExitOK_iff hb).mp hok⟩

/-- the ask counterpart at full strength (`C16_next_ask` assumes the cancel succeeded; here it is
    shown to): in a sane state the ask a query reports can be cancelled by its owner, the cancel
    pays exactly the reported size to the owner and the reported approver escrow to the
    approver, and the ask is gone afterwards -/
theorem C16_next_ask_exit (env : Env) (s : State) (id : String) (a : Ask) (hs : sane s = true)
    (hq : query s (.getAsk id) = .ok (.ask a)) :
    ∃ s' r, execute env s ⟨a.owner, [], .cancelAsk id⟩ = .ok (s', r) ∧
      paysExactly env.contract r.msgs
        ((a.owner, a.base, a.size) ::
          (match a.cls with | .ready ap conv => [(ap, conv.denom, conv.amount)] | _ => [])) = true ∧
      s'.asks.get? id = none := by
  have ha := query_getAsk hq
  obtain ⟨s', r, hx, hok⟩ := C06_cancel_ask env s id a hs ha
  exact ⟨s', r, hx, (askExitOK_iff ha).mp hok⟩

/-- an order that a query reported is no longer reported once it has been cancelled: the two
    halves of the property (faithful while open, absent once closed) chained over one step -/
theorem C16_reported_then_closed (env : Env) (s : State) (id : String) (b : Bid) (hs : sane s = true)
    (hq : query s (.getBid id) = .ok (.bid b)) :
    ∃ s' r, execute env s ⟨b.owner, [], .cancelBid id⟩ = .ok (s', r) ∧
      ∃ e, query s' (.getBid id) = .err e := by
  obtain ⟨s', r, hx, _, hgone⟩ := C16_next_bid env s id b hs hq
  exact ⟨s', r, hx, (C16_closed s' id).2 hgone⟩

/-- and through an executor's expiry of the ask: exactly the reported size goes back to the owner
    and the reported approver escrow to the approver -/
theorem C16_next_ask_expire (env : Env) (s : State) (id exec : String) (a : Ask) (hs : sane s = true)
    (hq : query s (.getAsk id) = .ok (.ask a)) (hex : memS exec s.info.executors = true) :
    ∃ s' r, execute env s ⟨exec, [], .expireAsk id⟩ = .ok (s', r) ∧
      paysExactly env.contract r.msgs
        ((a.owner, a.base, a.size) ::
          (match a.cls with | .ready ap conv => [(ap, conv.denom, conv.amount)] | _ => [])) = true ∧
      s'.asks.get? id = none := by
  have ha := query_getAsk hq
  obtain ⟨s', r, hx, hok⟩ := C06_expire_ask env s id exec a hs ha hex
  exact ⟨s', r, hx, (askExitOK_iff ha).mp hok⟩

end Ats.Proofs
