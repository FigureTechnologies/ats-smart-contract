/-
  C17 — Response attributes truthfully report what was settled.

  `shadowStep` is characterised once, per action, over an arbitrary attribute list with the
  lookups it makes as hypotheses; the handlers supply the lookups by evaluation in their literal
  lists, and one lemma per way the book changes relates the shadow to the book.
-/
import AtsProofs.C09
import AtsProofs.Attrs
namespace Ats.Proofs
open Ats Ats.Spec

/-! ### what `shadowStep` does on each kind of response -/

theorem openFlag_eq (b : Bool) : openFlag b = if b then "true" else "false" := rfl

theorem openFlag_beq (b : Bool) : (some (openFlag b) == some "true") = b := by
  cases b <;> decide

section
variable {sh : Shadow} {attrs : List (String × String)} {act id : String}

theorem shadowStep_create_ask {cls : String} {size : Nat}
    (ha : attr? attrs "action" = some "create_ask") (hid : attr? attrs "id" = some id)
    (hsz : numAttr attrs "size" = some size) (hc : attr? attrs "class" = some cls) :
    shadowStep sh attrs = sh.setAsk id (size, classOfJson cls) := by
  simp only [shadowStep, ha, hid, hsz, hc, Option.getD_some]

theorem shadowStep_create_bid {size : Nat}
    (ha : attr? attrs "action" = some "create_bid") (hid : attr? attrs "id" = some id)
    (hsz : numAttr attrs "size" = some size) :
    shadowStep sh attrs = sh.setBid id size := by
  simp only [shadowStep, ha, hid, hsz, Option.getD_some]

theorem shadowStep_approve_ask {n : Nat} {c : ShadowCls}
    (ha : attr? attrs "action" = some "approve_ask") (hid : attr? attrs "id" = some id)
    (hn : Book.get? sh.asks id = some (n, c)) :
    shadowStep sh attrs = sh.setAsk id (n, .ready) := by
  simp only [shadowStep, ha, hid, hn, Option.getD_some]

theorem shadowStep_cancel_ask
    (ha : attr? attrs "action" = some "cancel_ask") (hid : attr? attrs "id" = some id) :
    shadowStep sh attrs = { sh with asks := Book.del sh.asks id } := by
  simp only [shadowStep, ha, hid, Option.getD_some]

theorem shadowStep_reverse_ask {n rsize : Nat} {c : ShadowCls} {b : Bool}
    (ha : attr? attrs "action" = some act) (hact : act = "expire_ask" ∨ act = "reject_ask")
    (hid : attr? attrs "id" = some id) (hr : numAttr attrs "reverse_size" = some rsize)
    (ho : attr? attrs "order_open" = some (openFlag b)) (hn : Book.get? sh.asks id = some (n, c)) :
    shadowStep sh attrs =
      if b then sh.setAsk id (n - rsize, c) else { sh with asks := Book.del sh.asks id } := by
  rcases hact with rfl | rfl <;>
    simp only [shadowStep, ha, hid, hr, ho, hn, Option.getD_some, openFlag_beq]

theorem shadowStep_reverse_bid {n rsize : Nat} {b : Bool}
    (ha : attr? attrs "action" = some act)
    (hact : act = "cancel_bid" ∨ act = "expire_bid" ∨ act = "reject_bid")
    (hid : attr? attrs "id" = some id) (hr : numAttr attrs "reverse_size" = some rsize)
    (ho : attr? attrs "order_open" = some (openFlag b)) (hn : Book.get? sh.bids id = some n) :
    shadowStep sh attrs =
      if b then sh.setBid id (n - rsize) else { sh with bids := Book.del sh.bids id } := by
  rcases hact with rfl | rfl | rfl <;>
    simp only [shadowStep, ha, hid, hr, ho, hn, Option.getD_some, openFlag_beq]

theorem shadowStep_execute {aid bid : String} {size n m : Nat} {c : ShadowCls}
    (ha : attr? attrs "action" = some "execute") (haid : attr? attrs "ask_id" = some aid)
    (hbid : attr? attrs "bid_id" = some bid) (hsz : numAttr attrs "size" = some size)
    (hn : Book.get? sh.asks aid = some (n, c)) (hm : Book.get? sh.bids bid = some m) :
    shadowStep sh attrs =
      let sh1 := if n - size = 0 then { sh with asks := Book.del sh.asks aid }
                 else sh.setAsk aid (n - size, c)
      if m - size = 0 then { sh1 with bids := Book.del sh1.bids bid }
      else sh1.setBid bid (m - size) := by
  have h1 : (if n - size = 0 then { sh with asks := Book.del sh.asks aid }
             else sh.setAsk aid (n - size, c)).bids = sh.bids := by split <;> rfl
  simp only [shadowStep, ha, haid, hbid, hsz, hn, h1, hm, Option.getD_some]

theorem shadowStep_modify (ha : attr? attrs "action" = some "modify_contract") :
    shadowStep sh attrs = sh := by
  simp only [shadowStep, ha, Option.getD_some, String.reduceEq, imp_self]

end

theorem classOfJson_classJson {cls : AskClass} (h : cls = .pending ∨ cls = .basic) :
    classOfJson (classJson cls) = shadowCls cls := by
  rcases h with rfl | rfl <;> decide

/-! ### the shadow as projection of the book -/

/-- the shadow book equals the projection of the real book, key by key -/
structure ShadowRel (sh : Shadow) (s : State) : Prop where
  asks : ∀ k, Book.get? sh.asks k = (s.asks.get? k).map askProj
  bids : ∀ k, Book.get? sh.bids k = (s.bids.get? k).bind bidProj

theorem shadowOK_of_rel {sh : Shadow} {s : State} (h : ShadowRel sh s) : C17_shadowOK sh s = true := by
  unfold C17_shadowOK
  simp only [Bool.and_eq_true, List.all_eq_true, beq_iff_eq]
  exact ⟨fun k _ => h.asks k, fun k _ => h.bids k⟩

theorem shadowRel_init (env : Env) (m : InstMsg) (s : State) (r : Response)
    (h : instantiate env m = .ok (s, r)) : ShadowRel ⟨[], []⟩ s := by
  obtain ⟨_, _, _, _, rfl⟩ := instantiate_ok h
  exact ⟨fun k => rfl, fun k => rfl⟩

theorem ShadowRel.get_ask {sh : Shadow} {s : State} {k : String} {a : Ask} (h : ShadowRel sh s)
    (ha : s.asks.get? k = some a) : Book.get? sh.asks k = some (a.size, shadowCls a.cls) := by
  rw [h.asks k, ha]; rfl

theorem ShadowRel.get_bid {sh : Shadow} {s : State} {k : String} {b : Bid} (h : ShadowRel sh s)
    (hb : loadBid s k = some b) : Book.get? sh.bids k = some b.remBase := by
  rw [h.bids k, loadBid_some.mp hb]; rfl

section
variable {V W : Type} {F : Option V → Option W} {b : Book V} {b' : Book W}

/-- two books that correspond key by key still do after the same key is set in both … -/
theorem get?_set_congr (h : ∀ k, Book.get? b' k = F (b.get? k)) (k : String) (v : V) (w : W)
    (hw : F (some v) = some w) (k2 : String) :
    Book.get? (Book.set b' k w) k2 = F ((b.set k v).get? k2) := by
  by_cases hk : k2 = k
  · rw [hk, Book.get?_set_eq, Book.get?_set_eq, hw]
  · rw [Book.get?_set_ne _ _ _ _ hk, Book.get?_set_ne _ _ _ _ hk, h]

/-- … or deleted from both -/
theorem get?_del_congr (h : ∀ k, Book.get? b' k = F (b.get? k)) (k : String)
    (hn : F none = none) (k2 : String) :
    Book.get? (Book.del b' k) k2 = F ((b.del k).get? k2) := by
  by_cases hk : k2 = k
  · rw [hk, Book.get?_del_eq, Book.get?_del_eq, hn]
  · rw [Book.get?_del_ne _ _ _ hk, Book.get?_del_ne _ _ _ hk, h]

end

section
variable {sh : Shadow} {s : State}

theorem rel_setAsk (k : String) (a : Ask) (h : ShadowRel sh s) :
    ShadowRel (sh.setAsk k (askProj a)) { s with asks := s.asks.set k a } :=
  ⟨get?_set_congr h.asks k a _ rfl, h.bids⟩

theorem rel_delAsk (k : String) (h : ShadowRel sh s) :
    ShadowRel { sh with asks := Book.del sh.asks k } { s with asks := s.asks.del k } :=
  ⟨get?_del_congr h.asks k rfl, h.bids⟩

theorem rel_setBid (k : String) (b : Bid) (h : ShadowRel sh s) :
    ShadowRel (sh.setBid k b.remBase) { s with bids := s.bids.set k (.v3 b) } :=
  ⟨h.asks, get?_set_congr (F := (·.bind bidProj)) h.bids k (.v3 b) _ rfl⟩

theorem rel_delBid (k : String) (h : ShadowRel sh s) :
    ShadowRel { sh with bids := Book.del sh.bids k } { s with bids := s.bids.del k } :=
  ⟨h.asks, get?_del_congr (F := (·.bind bidProj)) h.bids k rfl⟩

theorem rel_putAsk (k : String) (a : Ask) (h : ShadowRel sh s) :
    ShadowRel (if a.size = 0 then { sh with asks := Book.del sh.asks k } else sh.setAsk k (askProj a))
      { s with asks := putAsk s.asks k a } := by
  unfold putAsk
  simp only [beq_iff_eq]
  split
  · exact rel_delAsk k h
  · exact rel_setAsk k a h

theorem rel_putBid (k : String) (b : Bid) (h : ShadowRel sh s) :
    ShadowRel (if b.remBase = 0 then { sh with bids := Book.del sh.bids k } else sh.setBid k b.remBase)
      { s with bids := putBid s.bids k b } := by
  unfold putBid Bid.remBase
  simp only [beq_iff_eq]
  split
  · exact rel_delBid k h
  · exact rel_setBid k b h

end

theorem remBase_accumulate (b : Bid) (n q f : Nat) : (b.accumulate n q f).remBase = b.remBase - n :=
  Nat.sub_add_eq ..

theorem reduce_size (a : Ask) (n : Nat) : (a.reduce n).size = a.size - n := rfl

theorem askProj_reduce (a : Ask) (n : Nat) : askProj (a.reduce n) = (a.size - n, shadowCls a.cls) := by
  unfold askProj Ask.reduce
  cases a.cls <;> rfl

/-! ### what is left under the key after `putAsk` / `putBid`, as the attributes report it -/

theorem askSizeAt_putAsk {s' : State} {asks : Book Ask} {k : String} {a : Ask}
    (h : s'.asks = putAsk asks k a) : askSizeAt s' k = a.size := by
  unfold askSizeAt
  rw [h, putAsk_get_eq]
  split <;> simp_all

theorem bidRemAt_putBid {s' : State} {bids : Book BidEntry} {k : String} {b : Bid}
    (h : s'.bids = putBid bids k b) : bidRemAt s' k = b.remBase := by
  unfold bidRemAt loadBid Bid.remBase
  rw [h, putBid_get_eq]
  by_cases h0 : b.base.amount - b.accBase = 0 <;> simp [h0]

theorem openFlag_putAsk (asks : Book Ask) (k : String) (a : Ask) :
    openFlag (a.size != 0) = if ((putAsk asks k a).get? k).isSome then "true" else "false" := by
  rw [putAsk_get_eq]
  by_cases h0 : a.size = 0 <;> simp [h0, openFlag]

theorem openFlag_putBid (bids : Book BidEntry) (k : String) (b : Bid) :
    openFlag (b.remBase != 0) = if ((putBid bids k b).get? k).isSome then "true" else "false" := by
  rw [putBid_get_eq]
  unfold Bid.remBase
  by_cases h0 : b.base.amount - b.accBase = 0 <;> simp [h0, openFlag]

/-! ### handler by handler -/

/-- the two claims of C17 about one accepted response: its attributes are truthful, and a shadow
    that was the projection of the book before is, updated from them, the projection after -/
structure Truthful (s : State) (c : Call) (r : Response) (s' : State) : Prop where
  attrs : C17_attrsOK s c r s' = true
  shadow : ∀ sh, ShadowRel sh s → ShadowRel (shadowStep sh r.attrs) s'

theorem C17_createAsk (env : Env) (s s' : State) (c : Call) (r : Response)
    (id base quote price : String) (size : Nat)
    (hm : c.msg = .createAsk id base quote price size)
    (h : createAsk env s c.sender c.funds id base quote price size = .ok (s', r)) :
    Truthful s c r s' := by
  obtain ⟨_, _, _, _, _, _, _, _, _, rfl, _, hr⟩ := createAsk_ok h
  have hact : attr? r.attrs "action" = some "create_ask" := by rw [hr]; rfl
  have hid : attr? r.attrs "id" = some id := by rw [hr]; rfl
  have hcls : attr? r.attrs "class" =
      some (classJson (if base != s.info.baseDenom then .pending else .basic)) := by rw [hr]; rfl
  have hprice : attr? r.attrs "price" = some price := by rw [hr]; rfl
  have hsize : numAttr r.attrs "size" = some size := numAttr_of_attr (by rw [hr]; rfl)
  constructor
  · unfold C17_attrsOK
    rw [hm]
    simp only [actionName, hact, hid, hprice, hsize, hcls, Book.get?_set_eq, beq_self_eq_true,
      Bool.and_self]
  · intro sh hrel
    rw [shadowStep_create_ask hact hid hsize hcls, classOfJson_classJson ((Decidable.em _).imp (if_pos ·) (if_neg ·))]
    exact rel_setAsk id ⟨id, c.sender, _, base, quote, price, size⟩ hrel

theorem C17_createBid (env : Env) (s s' : State) (c : Call) (r : Response)
    (id base : String) (fee : Option Coin) (price quote : String) (qs size : Nat)
    (hm : c.msg = .createBid id base fee price quote qs size)
    (h : createBid env s c.sender c.funds id base fee price quote qs size = .ok (s', r)) :
    Truthful s c r s' := by
  obtain ⟨_, _, _, _, _, _, _, _, _, _, _, _, _, _, _, _, _, _, _, _, rfl, hr⟩ := createBid_ok h
  have hact : attr? r.attrs "action" = some "create_bid" := by rw [hr]; rfl
  have hid : attr? r.attrs "id" = some id := by rw [hr]; rfl
  have hprice : attr? r.attrs "price" = some price := by rw [hr]; rfl
  have hsize : numAttr r.attrs "size" = some size := numAttr_of_attr (by rw [hr]; rfl)
  constructor
  · unfold C17_attrsOK
    rw [hm]
    simp only [actionName, hact, hid, hprice, hsize, beq_self_eq_true, Bool.and_self]
  · intro sh hrel
    rw [shadowStep_create_bid hact hid hsize]
    exact rel_setBid id ⟨⟨base, size⟩, 0, 0, 0, fee, id, c.sender, price, ⟨quote, qs⟩⟩ hrel

theorem C17_approve (env : Env) (s s' : State) (c : Call) (r : Response)
    (id base : String) (size : Nat) (hs : sane s = true)
    (hm : c.msg = .approveAsk id base size)
    (h : approveAsk env s c.sender c.funds id base size = .ok (s', r)) :
    Truthful s c r s' := by
  obtain ⟨a, _, _, ha, hp, _, _, _, rfl, hr⟩ := approveAsk_ok h
  have hact : attr? r.attrs "action" = some "approve_ask" := by rw [hr]; rfl
  have hid : attr? r.attrs "id" = some id := by rw [hr, ← (sane_ask_facts hs ha).id_eq]; rfl
  have hcls : attr? r.attrs "class" = some (classJson (.ready c.sender ⟨base, size⟩)) := by
    rw [hr]; rfl
  have hprice : attr? r.attrs "price" = some a.price := by rw [hr]; rfl
  have hsize : numAttr r.attrs "size" = some a.size := numAttr_of_attr (by rw [hr]; rfl)
  constructor
  · unfold C17_attrsOK
    rw [hm]
    simp only [actionName, hact, hid, hprice, hsize, hcls, Book.get?_set_eq, beq_self_eq_true,
      Bool.and_self]
  · intro sh hrel
    rw [shadowStep_approve_ask hact hid (hrel.get_ask ha)]
    exact rel_setAsk id { a with cls := .ready c.sender ⟨base, size⟩ } hrel

theorem C17_askReversal {env : Env} {s s' : State} {c : Call} {r : Response} {id : String}
    {requested : Option Nat} {a : Ask} (h : AskReversal env s c s' r id requested a) :
    Truthful s c r s' := by
  have hs' := h.state
  have hasks : s'.asks = putAsk s.asks id (a.reduce (requested.getD a.size)) := by rw [hs']
  rcases h.attrs with ⟨hm, hr⟩ | ⟨hne, hr⟩
  · -- the owner's cancel reports no size: the whole ask goes
    have hact : attr? r.attrs "action" = some "cancel_ask" := by rw [hr]; rfl
    have hid : attr? r.attrs "id" = some id := by rw [hr]; rfl
    have hreq : requested = none := by
      rcases h.kind with ⟨_, h0⟩ | ⟨_, h0⟩ | h0
      · exact h0
      · exact h0
      · rw [hm] at h0; cases h0
    constructor
    · unfold C17_attrsOK
      rw [hm]
      simp only [actionName, hact, hid, beq_self_eq_true, Bool.and_self]
    · intro sh hrel
      rw [hs', shadowStep_cancel_ask hact hid]
      have := rel_putAsk id (a.reduce (requested.getD a.size)) hrel
      rw [hreq] at this ⊢
      simpa only [Option.getD_none, reduce_size, Nat.sub_self, if_true] using this
  · have hact : attr? r.attrs "action" = some (actionName c.msg) := by rw [hr]; rfl
    have hid : attr? r.attrs "id" = some id := by rw [hr]; rfl
    have hrev : numAttr r.attrs "reverse_size" = some (requested.getD a.size) :=
      numAttr_of_attr (by rw [hr]; rfl)
    have hopen : attr? r.attrs "order_open" =
        some (openFlag ((a.reduce (requested.getD a.size)).size != 0)) := by rw [hr]; rfl
    have hkind : c.msg = .expireAsk id ∨ c.msg = .rejectAsk id requested := by
      rcases h.kind with ⟨hm, _⟩ | ⟨hm, _⟩ | hm
      · exact absurd hm hne
      · exact Or.inl hm
      · exact Or.inr hm
    constructor
    · have hrok : askReverseAttrOK s s' id r.attrs = true := by
        unfold askReverseAttrOK
        simp only [h.found, hrev, askSizeAt_putAsk hasks, reduce_size, Nat.sub_sub_self h.cut.le,
          beq_self_eq_true]
      rw [openFlag_putAsk s.asks id, ← hasks] at hopen
      unfold C17_attrsOK
      rcases hkind with hm | hm <;>
      · rw [hm] at hact ⊢
        simp only [actionName, hact, hid, hrok, hopen, beq_self_eq_true, Bool.and_self]
    · intro sh hrel
      have hname : actionName c.msg = "expire_ask" ∨ actionName c.msg = "reject_ask" :=
        hkind.imp (fun hm => by rw [hm]; rfl) (fun hm => by rw [hm]; rfl)
      rw [hs', shadowStep_reverse_ask hact hname hid hrev hopen (hrel.get_ask h.found)]
      have := rel_putAsk id (a.reduce (requested.getD a.size)) hrel
      rw [askProj_reduce] at this
      simpa only [bne_iff_ne, ne_eq, ite_not] using this

theorem C17_bidReversal {env : Env} {s s' : State} {c : Call} {r : Response} {id : String}
    {requested : Option Nat} {b : Bid} {bp : Dec} {q f : Nat}
    (h : BidReversal env s c s' r id requested b bp q f) : Truthful s c r s' := by
  have hs' := h.state
  have hr := h.attrs
  generalize hb' : b.accumulate (requested.getD b.remBase) q f = b' at hs'
  have hrem : b'.remBase = b.remBase - requested.getD b.remBase := by rw [← hb', remBase_accumulate]
  have hact : attr? r.attrs "action" = some (actionName c.msg) := by rw [hr]; rfl
  have hid : attr? r.attrs "id" = some id := by rw [hr]; rfl
  have hrev : numAttr r.attrs "reverse_size" = some (requested.getD b.remBase) :=
    numAttr_of_attr (by rw [hr]; rfl)
  have hopen : attr? r.attrs "order_open" = some (openFlag (b'.remBase != 0)) := by
    rw [hr, ← hb']; rfl
  have hbids : s'.bids = putBid s.bids id b' := by rw [hs']
  have hkind : c.msg = .cancelBid id ∨ c.msg = .expireBid id ∨ c.msg = .rejectBid id requested := by
    rcases h.kind with ⟨hm | hm, _⟩ | hm
    · exact Or.inl hm
    · exact Or.inr (Or.inl hm)
    · exact Or.inr (Or.inr hm)
  constructor
  · have hrok : bidReverseAttrOK s s' id r.attrs = true := by
      unfold bidReverseAttrOK
      simp only [h.found, hrev, bidRemAt_putBid hbids, hrem, Nat.sub_sub_self h.cut.le, beq_self_eq_true]
    rw [openFlag_putBid s.bids id, ← hbids] at hopen
    unfold C17_attrsOK
    rcases hkind with hm | hm | hm <;>
    · rw [hm] at hact ⊢
      simp only [actionName, hact, hid, hrok, hopen, beq_self_eq_true, Bool.and_self]
  · intro sh hrel
    have hname : actionName c.msg = "cancel_bid" ∨ actionName c.msg = "expire_bid" ∨
        actionName c.msg = "reject_bid" :=
      hkind.imp (fun hm => by rw [hm]; rfl) (Or.imp (fun hm => by rw [hm]; rfl) (fun hm => by rw [hm]; rfl))
    rw [hs', shadowStep_reverse_bid hact hname hid hrev hopen (hrel.get_bid h.found), ← hrem]
    simpa only [bne_iff_ne, ne_eq, ite_not] using rel_putBid id b' hrel

theorem eqv_refl (p : Dec) : Dec.eqv p p = true := by simp [Dec.eqv]

theorem C17_fill {env : Env} {s s' : State} {c : Call} {r : Response} {askId bidId price : String}
    {size : Nat} {a : Ask} {b : Bid} {bp : Dec} {m : MatchAmounts}
    (h : Fill env s c s' r askId bidId price size a b bp m) : Truthful s c r s' := by
  have hs' := h.state
  have hr := h.attrs
  generalize hb' : b.accumulate size (m.gross + m.refund) (m.bidFee + m.feeRefund) = b' at hs'
  have hrem : b'.remBase = b.remBase - size := by rw [← hb', remBase_accumulate]
  have hact : attr? r.attrs "action" = some "execute" := by rw [hr]; rfl
  have haid : attr? r.attrs "ask_id" = some askId := by rw [hr]; rfl
  have hbid : attr? r.attrs "bid_id" = some bidId := by rw [hr]; rfl
  have hsize : numAttr r.attrs "size" = some size := numAttr_of_attr (by rw [hr]; rfl)
  constructor
  · obtain ⟨p, hp, _, _⟩ := C09_ask_fee s a b price size m h.amounts
    have hprice : priceAttrEq r.attrs price = true := by
      have : attr? r.attrs "price" = some price := by rw [hr]; rfl
      unfold priceAttrEq
      simp only [this, hp, eqv_refl]
    have hafee : numAttr r.attrs "ask_fee" = some m.askFee := numAttr_of_attr (by rw [hr]; rfl)
    have hbfee : numAttr r.attrs "bid_fee" = some m.bidFee := numAttr_of_attr (by rw [hr]; rfl)
    have e1 : askSizeAt s' askId = a.size - size := askSizeAt_putAsk (a := a.reduce size) (by rw [hs'])
    have e2 : bidRemAt s' bidId = b.remBase - size := by
      rw [bidRemAt_putBid (b := b') (by rw [hs']), hrem]
    unfold C17_attrsOK
    rw [h.kind]
    simp only [actionName, hact, haid, hbid, hsize, hprice, h.ask, h.bid, e1, e2, hafee, hbfee, h.amounts,
      Nat.sub_sub_self h.askCut.le, Nat.sub_sub_self h.bidCut.le, beq_self_eq_true, Bool.and_self]
  · intro sh hrel
    rw [hs', shadowStep_execute hact haid hbid hsize (hrel.get_ask h.ask) (hrel.get_bid h.bid), ← hrem,
      ← askProj_reduce]
    exact rel_putBid bidId b' (rel_putAsk askId (a.reduce size) hrel)

theorem C17_modify (env : Env) (s s' : State) (c : Call) (r : Response)
    (ap ex : Option (List String)) (ar aa br ba : Option String) (att btt : Option (List String))
    (hm : c.msg = .modify ap ex ar aa br ba att btt)
    (h : modifyContract env s c.sender c.funds ap ex ar aa br ba att btt = .ok (s', r)) :
    Truthful s c r s' := by
  obtain ⟨_, _, _, _, _, _, _, _, _, _, _, _, rfl, hr⟩ := modifyContract_ok h
  have hact : attr? r.attrs "action" = some "modify_contract" := by rw [hr]; rfl
  constructor
  · unfold C17_attrsOK
    rw [hm]
    simp only [actionName, hact, beq_self_eq_true, Bool.and_self]
  · intro sh hrel
    rw [shadowStep_modify hact]
    exact ⟨hrel.asks, hrel.bids⟩

theorem C17_step (env : Env) (s s' : State) (c : Call) (r : Response)
    (hs : sane s = true) (hx : ExactStep s c.msg)
    (h : execute env s c = .ok (s', r)) : Truthful s c r s' := by
  cases effect hs hx h with
  | createAsk id base quote price size hm h => exact C17_createAsk env s s' c r id base quote price size hm h
  | createBid id base fee price quote qs size hm h =>
    exact C17_createBid env s s' c r id base fee price quote qs size hm h
  | approveAsk id base size hm h => exact C17_approve env s s' c r id base size hs hm h
  | askReversal id requested a h => exact C17_askReversal h
  | bidReversal id requested b bp q f h => exact C17_bidReversal h
  | fill askId bidId price size a b bp m h => exact C17_fill h
  | modify ap ex ar aa br ba att btt hm h => exact C17_modify env s s' c r ap ex ar aa br ba att btt hm h

/-- C17: the attributes of every accepted response are truthful – the action name and the
    id(s); for reversals the reversed size actually returned and whether the order is still on
    the book; for a match the size, the execution price (as a number) and the fees actually
    paid; for create and approve the recorded price, size and class -/
theorem C17_truthful (env : Env) (s s' : State) (c : Call) (r : Response)
    (hs : sane s = true) (hx : ExactStep s c.msg)
    (h : execute env s c = .ok (s', r)) : C17_attrsOK s c r s' = true :=
  (C17_step env s s' c r hs hx h).attrs

/-- C17 shadow book: an off-chain record of which orders are open, their remaining sizes and
    approval state, updated from the response attributes alone, is after every accepted request
    again the projection of the on-chain book -/
theorem C17_shadow_step (env : Env) (s s' : State) (c : Call) (r : Response) (sh : Shadow)
    (hs : sane s = true) (hx : ExactStep s c.msg) (hrel : ShadowRel sh s)
    (h : execute env s c = .ok (s', r)) : ShadowRel (shadowStep sh r.attrs) s' :=
  (C17_step env s s' c r hs hx h).shadow sh hrel

/-- C17, fees of a match: the `ask_fee` and `bid_fee` a response reports were really paid, out
    of the contract, to the configured fee accounts (no invariant and no magnitude hypothesis:
    read off the accepted handler) -/
theorem C17_fees_paid (env : Env) (s s' : State) (c : Call) (r : Response)
    (askId bidId price : String) (size : Nat)
    (hm : c.msg = .executeMatch askId bidId price size)
    (h : execute env s c = .ok (s', r)) : C17_feesPaidOK env.contract s bidId r = true := by
  simp only [execute, hm, Res.bind_eq_ok, guardR_eq_ok] at h
  obtain ⟨_, _, h⟩ := h
  obtain ⟨a, b, askP, bidP, execP, grossD, gross, askFee, bidFee, m2, m3, rp, _, _, _, hb, _, _, _, _, _, _, _, _,
    _, _, _, haf, _, _, hm2, _, _, _, hr⟩ := executeMatch_ok h
  have ha1 : numAttr r.attrs "ask_fee" = some askFee := numAttr_of_attr (by rw [hr]; rfl)
  have ha2 : numAttr r.attrs "bid_fee" = some bidFee := numAttr_of_attr (by rw [hr]; rfl)
  unfold C17_feesPaidOK
  simp only [hb, ha1, ha2, Bool.and_eq_true, Bool.or_eq_true, beq_iff_eq]
  subst hr
  constructor
  · by_cases h0 : askFee = 0
    · exact Or.inl h0
    · right
      cases hfi : s.info.askFee with
      | none =>
        -- no ask fee configured: the fee is 0
        exfalso
        unfold AskFeeIs at haf
        simp [hfi] at haf
        exact h0 haf
      | some fi =>
        have hcr := credit_askFeeMsgList env (info := s.info) (n := askFee)
          (fun h => by rw [hfi] at h; cases h) b.quote.denom fi.account b.quote.denom
        simp only [hfi, Option.map_some, Option.getD_some, and_self, if_true] at hcr
        simp only [decide_eq_true_eq, credit_append, hcr]
        omega
  · by_cases h0 : bidFee = 0
    · exact Or.inl h0
    · right
      rcases bidFeeMsgs_ok.mp hm2 with ⟨hz, _⟩ | ⟨_, fi, hfi, rfl⟩
      · exact absurd hz h0
      · simp only [hfi, decide_eq_true_eq, credit_append, credit_payMsgR, and_self, if_true]
        omega

end Ats.Proofs
