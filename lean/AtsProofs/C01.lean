/-
  C01 — Escrow solvency: funds held always equal what open orders are owed.
-/
import AtsProofs.Effects
namespace Ats.Proofs
open Ats Ats.Spec

theorem sane_distinct {s : State} (h : sane s = true) :
    Book.Distinct s.asks ∧ Book.Distinct s.bids := by
  unfold sane at h
  simp only [Bool.and_eq_true] at h
  exact ⟨Book.distinct_of_bool h.1.1.1.2, Book.distinct_of_bool h.1.1.2⟩

theorem fundsOf_nil (d : String) : fundsOf [] d = 0 := rfl
theorem fundsOf_single (c : Coin) (d : String) : fundsOf [c] d = if c.denom = d then c.amount else 0 := by
  simp [fundsOf, sumNat]

/-- what the escrow of one coin adds to the contract's holdings of `d` -/
theorem escrow_balance {env : Env} {c : Call} {coin : Coin} {msgs : List Msg} {d : String}
    (hsender : c.sender ≠ env.contract)
    (hf : fundsOk (env.restricted coin.denom) c.funds coin = true)
    (hm : msgs = pullMsgs env coin.denom coin.amount c.sender) :
    fundsOf c.funds d + credit env.contract msgs env.contract d =
      (if coin.denom = d then coin.amount else 0) + debit env.contract msgs env.contract d := by
  subst hm
  unfold fundsOk pullMsgs at *
  cases hr : env.restricted coin.denom
  · simp only [hr, Bool.false_eq_true, if_false, decide_eq_true_eq] at hf ⊢
    rw [hf, fundsOf_single]; simp
  · simp only [hr, if_true, List.isEmpty_iff] at hf ⊢
    rw [hf, fundsOf_nil, credit_cons, debit_cons]
    simp [msgCredit, msgDebit, flowOf, hsender]

/-- owed after an ask is added under a fresh key -/
theorem owed_add_ask (s : State) (k : String) (a : Ask) (d : String) (h : s.asks.get? k = none) :
    owed { s with asks := s.asks.set k a } d = owed s d + askOwes d a := by
  unfold owed
  simp only [Book.sumBy_set_new _ _ _ _ h]; omega

theorem owed_add_bid (s : State) (k : String) (e : BidEntry) (d : String) (h : s.bids.get? k = none) :
    owed { s with bids := s.bids.set k e } d = owed s d + bidOwes d e := by
  unfold owed
  simp only [Book.sumBy_set_new _ _ _ _ h]; omega

theorem owed_set_ask (s : State) (k : String) (old a : Ask) (d : String) (hd : Book.Distinct s.asks)
    (h : s.asks.get? k = some old) :
    owed { s with asks := s.asks.set k a } d + askOwes d old = owed s d + askOwes d a := by
  unfold owed
  have := Book.sumBy_set_old (askOwes d) s.asks k old a hd h
  simp only; omega

theorem owed_del_ask (s : State) (k : String) (old : Ask) (d : String) (hd : Book.Distinct s.asks)
    (h : s.asks.get? k = some old) :
    owed { s with asks := s.asks.del k } d + askOwes d old = owed s d := by
  unfold owed
  have := Book.sumBy_del (askOwes d) s.asks k old hd h
  simp only; omega

theorem owed_put_ask (s : State) (k : String) (old a : Ask) (d : String) (hd : Book.Distinct s.asks)
    (h : s.asks.get? k = some old) (hz : a.size = 0 → askOwes d a = 0) :
    owed { s with asks := putAsk s.asks k a } d + askOwes d old = owed s d + askOwes d a := by
  unfold putAsk
  by_cases h0 : a.size = 0
  · simp only [h0, beq_self_eq_true, if_true]
    rw [hz h0]; exact owed_del_ask s k old d hd h
  · simp only [h0, beq_iff_eq, if_false]
    exact owed_set_ask s k old a d hd h

theorem owed_set_bid (s : State) (k : String) (old e : BidEntry) (d : String) (hd : Book.Distinct s.bids)
    (h : s.bids.get? k = some old) :
    owed { s with bids := s.bids.set k e } d + bidOwes d old = owed s d + bidOwes d e := by
  unfold owed
  have := Book.sumBy_set_old (bidOwes d) s.bids k old e hd h
  simp only; omega

theorem owed_del_bid (s : State) (k : String) (old : BidEntry) (d : String) (hd : Book.Distinct s.bids)
    (h : s.bids.get? k = some old) :
    owed { s with bids := s.bids.del k } d + bidOwes d old = owed s d := by
  unfold owed
  have := Book.sumBy_del (bidOwes d) s.bids k old hd h
  simp only; omega

theorem owed_put_bid (s : State) (k : String) (old : BidEntry) (b : Bid) (d : String)
    (hd : Book.Distinct s.bids) (h : s.bids.get? k = some old)
    (hz : b.base.amount - b.accBase = 0 → bidOwes d (.v3 b) = 0) :
    owed { s with bids := putBid s.bids k b } d + bidOwes d old = owed s d + bidOwes d (.v3 b) := by
  unfold putBid
  by_cases h0 : b.base.amount - b.accBase = 0
  · simp only [h0, beq_self_eq_true, if_true]
    rw [hz h0]; exact owed_del_bid s k old d hd h
  · simp only [h0, beq_iff_eq, if_false]
    exact owed_set_bid s k old (.v3 b) d hd h

theorem denomOK_iff {contract : String} {s : State} {c : Call} {r : Response} {s' : State} {d : String} :
    C01_denomOK contract s c r s' d = true ↔
      owed s d + fundsOf c.funds d + credit contract r.msgs contract d =
        owed s' d + debit contract r.msgs contract d := by
  simp [C01_denomOK]

/-- environment assumption of C01: the contract's own address is not a participant – it is
    never the payee of one of its own payouts (order owners, approvers and fee accounts are
    other accounts) -/
def NoSelfPay (contract : String) (msgs : List Msg) : Prop :=
  ∀ m ∈ msgs, ∀ f, flowOf contract m = some f → f.frm = contract → f.to ≠ contract

theorem credit_zero_of_payouts {c : String} {ms : List Msg} (d : String)
    (h1 : FromContract c ms) (h2 : NoSelfPay c ms) : credit c ms c d = 0 := by
  induction ms with
  | nil => rfl
  | cons m t ih =>
    rw [credit_cons]
    have ht1 : FromContract c t := fun x hx => h1 x (List.mem_cons_of_mem _ hx)
    have ht2 : NoSelfPay c t := fun x hx => h2 x (List.mem_cons_of_mem _ hx)
    rw [ih ht1 ht2]
    obtain ⟨f, hf, hfr⟩ := h1 m List.mem_cons_self
    have := h2 m List.mem_cons_self f hf hfr
    simp [msgCredit, hf, this]

theorem C01_createAsk (env : Env) (s s' : State) (c : Call) (r : Response)
    (id base quote price : String) (size : Nat) (d : String)
    (hsender : c.sender ≠ env.contract)
    (h : createAsk env s c.sender c.funds id base quote price size = .ok (s', r)) :
    C01_denomOK env.contract s c r s' d = true := by
  obtain ⟨_, hf, _, _, _, _, _, hex, _, rfl, hmsgs, _⟩ := createAsk_ok h
  rw [denomOK_iff, owed_add_ask s id _ d hex]
  have := escrow_balance (coin := ⟨base, size⟩) (d := d) hsender hf hmsgs
  simp only at this
  have hao : askOwes d ⟨id, c.sender, if (base != s.info.baseDenom) = true then AskClass.pending else AskClass.basic,
      base, quote, price, size⟩ = if base = d then size else 0 := by
    unfold askOwes
    by_cases hb : (base != s.info.baseDenom) = true <;> simp [hb]
  rw [hao]; omega

theorem C01_createBid (env : Env) (s s' : State) (c : Call) (r : Response)
    (id base : String) (fee : Option Coin) (price quote : String) (qs size : Nat) (d : String)
    (hsender : c.sender ≠ env.contract)
    (h : createBid env s c.sender c.funds id base fee price quote qs size = .ok (s', r)) :
    C01_denomOK env.contract s c r s' d = true := by
  obtain ⟨p, total, rate, feeSize, hp, _, _, ht, hfr, hlim, heq, _, _, hfm, _, _, _, hfu, hex, _, rfl, hr⟩ :=
    createBid_ok h
  rw [(total_eq_quoteSize (checkPrice_ok.mp hp).2.2.1 ht heq).2.2] at hfu
  rw [denomOK_iff, owed_add_bid s id _ d hex]
  have := escrow_balance (coin := ⟨quote, qs + feeAmt fee⟩) (d := d) (msgs := r.msgs) hsender hfu (by rw [hr])
  simp only at this
  have hbo : bidOwes d (.v3 ⟨⟨base, size⟩, 0, 0, 0, fee, id, c.sender, price, ⟨quote, qs⟩⟩) =
      if quote = d then qs + feeAmt fee else 0 := by
    unfold bidOwes Bid.remQuote Bid.remFee Bid.feeAmount feeAmt feeMatches at *
    cases fee with
    | none => simp
    | some f =>
      simp only at hfm ⊢
      rw [hfm.2]
      by_cases hq : quote = d <;> simp [hq]
  rw [hbo]; omega

theorem C01_approve (env : Env) (s s' : State) (c : Call) (r : Response)
    (id base : String) (size : Nat) (d : String) (hs : sane s = true)
    (hsender : c.sender ≠ env.contract)
    (h : approveAsk env s c.sender c.funds id base size = .ok (s', r)) :
    C01_denomOK env.contract s c r s' d = true := by
  obtain ⟨a, _, hf, ha, hp, rfl, rfl, _, rfl, hr⟩ := approveAsk_ok h
  rw [denomOK_iff]
  have h1 := owed_set_ask s id a { a with cls := .ready c.sender ⟨s.info.baseDenom, a.size⟩ } d
    (sane_distinct hs).1 ha
  have := escrow_balance (coin := ⟨s.info.baseDenom, a.size⟩) (d := d) (msgs := r.msgs) hsender hf (by rw [hr])
  simp only at this
  have h2 : askOwes d { a with cls := .ready c.sender ⟨s.info.baseDenom, a.size⟩ } =
      askOwes d a + if s.info.baseDenom = d then a.size else 0 := by
    unfold askOwes; simp [hp]
  rw [h2] at h1
  omega

theorem askOwes_reduce (a : Ask) (eff : Nat) (d : String) (hle : eff ≤ a.size)
    (htr : ∀ ap c, a.cls = .ready ap c → c.amount = a.size) :
    askOwes d a = askOwes d (a.reduce eff) + (if a.base = d then eff else 0) +
      (match a.cls with | .ready _ c => if c.denom = d then eff else 0 | _ => 0) := by
  unfold askOwes Ask.reduce
  cases hc : a.cls with
  | basic => simp; split <;> omega
  | pending => simp; split <;> omega
  | ready ap cv =>
    have := htr ap cv hc
    simp only [this]
    split <;> split <;> omega

/-- consuming `q` quote and `f` fee of a bid lowers what it is owed by exactly that -/
theorem bidOwes_accumulate (b : Bid) (e q f : Nat) (d : String)
    (hq : b.accQuote + q ≤ b.quote.amount) (hf : b.accFee + f ≤ b.feeAmount)
    (hfd : ∀ fe, b.fee = some fe → fe.denom = b.quote.denom) (hnone : b.fee = none → f = 0) :
    bidOwes d (.v3 b) = bidOwes d (.v3 (b.accumulate e q f)) +
      (if b.quote.denom = d then q else 0) + (if b.quote.denom = d then f else 0) := by
  obtain ⟨base, accB, accQ, accF, fee, id, owner, price, quote⟩ := b
  simp only [Bid.feeAmount] at hf hfd hnone hq
  simp only [bidOwes, Bid.accumulate, Bid.remQuote, Bid.remFee, Bid.feeAmount]
  cases fee with
  | none =>
    have := hnone rfl
    simp only [this]
    by_cases hd : quote.denom = d <;> simp [hd] <;> omega
  | some fe =>
    have h1 := hfd fe rfl
    simp only at hf
    simp only [h1]
    by_cases hd : quote.denom = d <;> simp [hd] <;> omega

theorem bidOwes_zero (b : Bid) (d : String) (hq : b.remQuote = 0) (hf : b.remFee = 0) :
    bidOwes d (.v3 b) = 0 := by
  simp only [bidOwes, hq, hf]
  cases b.fee <;> simp

theorem debit_classMsgList_reduce (env : Env) (a : Ask) (b : Bid) (net size : Nat) (d : String) :
    debit env.contract (classMsgList env (a.reduce size) b (env.restricted a.base)
        (env.restricted b.quote.denom) net size) env.contract d =
      (match a.cls with
       | .basic => (if b.quote.denom = d then net else 0) + (if a.base = d then size else 0)
       | .ready _ c => (if c.denom = d then size else 0) + (if a.base = d then size else 0) +
                       (if b.quote.denom = d then net else 0)
       | .pending => 0) := by
  have := debit_classMsgList env (a.reduce size) b net size d
  have hbase : (a.reduce size).base = a.base := rfl
  rw [hbase] at this
  rw [this]
  unfold Ask.reduce
  cases a.cls <;> rfl

/-! ### what the two cuts take off the book -/

/-- what `n` units cut off an ask release, per denomination: the base to the owner and, for an
    approved ask, as much of the approver's escrow -/
def askRelease (a : Ask) (n : Nat) (d : String) : Nat :=
  (if a.base = d then n else 0) +
  (match a.cls with | .ready _ c => if c.denom = d then n else 0 | _ => 0)

theorem owed_cutAsk {s : State} {k : String} {a : Ask} {n : Nat} (d : String) (hd : Book.Distinct s.asks)
    (ha : s.asks.get? k = some a) (hc : AskCut s.info k a n) :
    owed { s with asks := putAsk s.asks k (a.reduce n) } d + askRelease a n d = owed s d := by
  have h1 := askOwes_reduce a n d hc.le (fun ap cv h => (hc.facts.tracks h).1)
  have hz : (a.reduce n).size = 0 → askOwes d (a.reduce n) = 0 := by
    intro h0
    unfold askOwes
    unfold Ask.reduce at h0 ⊢
    simp only at h0
    cases a.cls <;> simp [h0]
  have h2 := owed_put_ask s k a (a.reduce n) d hd ha hz
  unfold askRelease
  omega

theorem owed_cutBid {s : State} {k : String} {b : Bid} {bp : Dec} {n q f : Nat} (d : String)
    (hd : Book.Distinct s.bids) (hb : loadBid s k = some b) (hc : BidCut s.info k b bp n q f) :
    owed { s with bids := putBid s.bids k (b.accumulate n q f) } d +
      (if b.quote.denom = d then q + f else 0) = owed s d := by
  have he := hc.effect
  have hbo := bidOwes_accumulate b n q f d he.hq he.hf hc.facts.fee_denom he.hnone
  have hz : (b.accumulate n q f).base.amount - (b.accumulate n q f).accBase = 0 →
      bidOwes d (.v3 (b.accumulate n q f)) = 0 := by
    intro h0
    have hle := hc.le
    obtain ⟨hq1, hf1⟩ := he.hfinal (by simp only [Bid.accumulate, Bid.remBase] at h0 hle ⊢; omega)
    apply bidOwes_zero
    · simp only [Bid.remQuote, Bid.accumulate] at hq1 ⊢; omega
    · simp only [Bid.remFee, Bid.accumulate, Bid.feeAmount] at hf1 ⊢; omega
  have h2 := owed_put_bid s k (.v3 b) (b.accumulate n q f) d hd (loadBid_some.mp hb) hz
  split <;> simp_all <;> omega

/-! ### the effects, one by one -/

theorem C01_askReversal {env : Env} {s s' : State} {c : Call} {r : Response} {id : String}
    {requested : Option Nat} {a : Ask} (d : String) (hs : sane s = true)
    (hself : NoSelfPay env.contract r.msgs) (h : AskReversal env s c s' r id requested a) :
    C01_denomOK env.contract s c r s' d = true := by
  rw [denomOK_iff, h.no_funds, fundsOf_nil]
  have hfc : FromContract env.contract r.msgs := by
    rw [h.msgs]; exact fromContract_payMsg _ _ _ _ (fromContract_approverMsgs _ _ _)
  rw [credit_zero_of_payouts d hfc hself, h.msgs, debit_payMsg, debit_approverMsgs, h.state]
  have := owed_cutAsk d (sane_distinct hs).1 h.found h.cut
  unfold askRelease at this
  cases hcl : a.cls <;> simp only [hcl, true_and] at this ⊢ <;> omega

theorem C01_bidReversal {env : Env} {s s' : State} {c : Call} {r : Response} {id : String}
    {requested : Option Nat} {b : Bid} {bp : Dec} {q f : Nat} (d : String) (hs : sane s = true)
    (hself : NoSelfPay env.contract r.msgs) (h : BidReversal env s c s' r id requested b bp q f) :
    C01_denomOK env.contract s c r s' d = true := by
  rw [denomOK_iff, h.no_funds, fundsOf_nil]
  have hfc : FromContract env.contract r.msgs := by
    rw [h.msgs]; exact fromContract_payMsg _ _ _ _ (fromContract_payIfPosR _ _ _ _ _)
  rw [credit_zero_of_payouts d hfc hself, h.msgs, debit_payMsg, debit_payIfPosR, h.state]
  have := owed_cutBid d (sane_distinct hs).2 h.found h.cut
  simp only [true_and] at this ⊢
  split at this <;> simp_all <;> omega

theorem C01_fill {env : Env} {s s' : State} {c : Call} {r : Response} {askId bidId price : String}
    {size : Nat} {a : Ask} {b : Bid} {bp : Dec} {m : MatchAmounts} (d : String) (hs : sane s = true)
    (hself : NoSelfPay env.contract r.msgs) (h : Fill env s c s' r askId bidId price size a b bp m) :
    C01_denomOK env.contract s c r s' d = true := by
  rw [denomOK_iff, h.no_funds, fundsOf_nil]
  have hfc : FromContract env.contract r.msgs := by
    rw [h.msgs]
    exact fromContract_append (fromContract_append (fromContract_append
      (fromContract_askFeeMsgList _ _ _ _ _) (fromContract_payIfPosR _ _ _ _ _))
      (fromContract_classMsgList _ _ _ _ _ _ _)) (fromContract_refundMsgList _ _ _ _ _)
  rw [credit_zero_of_payouts d hfc hself, h.msgs, debit_append, debit_append, debit_append,
    debit_askFeeMsgList env h.no_ask_fee, debit_payIfPosR, debit_classMsgList_reduce, debit_refundMsgList env h.bidCut.facts h.refund_fee,
    h.state]
  -- what leaves the book: `size` of the ask's base, and of the bid `gross + refund` quote and
  -- `bidFee + feeRefund` fee; what is paid: the same, the gross split into ask fee and net
  have hd := sane_distinct hs
  have s1 := owed_cutAsk d hd.1 h.ask h.askCut
  have s2 := owed_cutBid (s := { s with asks := putAsk s.asks askId (a.reduce size) }) d hd.2 h.bid h.bidCut
  have hfee := h.fee_le
  simp only [true_and] at s1 s2 ⊢
  unfold askRelease at s1
  cases hcl : a.cls with
  | pending => exact absurd hcl h.ready
  | basic =>
    simp only [hcl] at s1 ⊢
    by_cases hqd : b.quote.denom = d <;> simp_all <;> omega
  | ready ap cv =>
    simp only [hcl] at s1 ⊢
    by_cases hqd : b.quote.denom = d <;> simp_all <;> omega

theorem C01_modify (env : Env) (s s' : State) (c : Call) (r : Response)
    (ap ex : Option (List String)) (ar aa br ba : Option String) (at_ bt : Option (List String))
    (d : String)
    (h : modifyContract env s c.sender c.funds ap ex ar aa br ba at_ bt = .ok (s', r)) :
    C01_denomOK env.contract s c r s' d = true := by
  obtain ⟨_, hf, _, _, _, _, _, _, _, _, _, _, rfl, rfl⟩ := modifyContract_ok h
  rw [denomOK_iff, hf]
  simp [fundsOf_nil, owed]

/-- C01, one step: for every accepted request from a sane state and every denomination, the
    contract's holdings before plus everything received (attached funds, pull-ins) equal its
    holdings after plus everything paid out, where holdings are exactly what the open orders are
    owed.  Environment assumptions: the contract's own address is not a participant. -/
theorem C01_step (env : Env) (s s' : State) (c : Call) (r : Response) (d : String)
    (hs : sane s = true) (hx : ExactStep s c.msg)
    (hsender : c.sender ≠ env.contract) (hself : NoSelfPay env.contract r.msgs)
    (h : execute env s c = .ok (s', r)) :
    C01_denomOK env.contract s c r s' d = true := by
  cases effect hs hx h with
  | createAsk id base quote price size _ h => exact C01_createAsk env s s' c r id base quote price size d hsender h
  | createBid id base fee price quote qs size _ h =>
    exact C01_createBid env s s' c r id base fee price quote qs size d hsender h
  | approveAsk id base size _ h => exact C01_approve env s s' c r id base size d hs hsender h
  | askReversal id requested a h => exact C01_askReversal d hs hself h
  | bidReversal id requested b bp q f h => exact C01_bidReversal d hs hself h
  | fill askId bidId price size a b bp m h => exact C01_fill d hs hself h
  | modify ap ex ar aa br ba at_ bt _ h => exact C01_modify env s s' c r _ _ _ _ _ _ _ _ d h

end Ats.Proofs
