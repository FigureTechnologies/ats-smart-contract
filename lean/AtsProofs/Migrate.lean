/-
  AtsProofs.Migrate — one accepted migration.  A migration of a sane (hence current-format)
  book preserves the structural invariant and the pro-rata fee invariant and leaves both sides
  of the book exactly as they were; History.lean takes it from there to histories that contain
  migrations.
-/
import AtsProofs.C14
import AtsProofs.SaneStep
import AtsProofs.C06
namespace Ats.Proofs
open Ats Ats.Spec

/-- converting a book that holds only current-format bids changes nothing -/
theorem map_convert_of_v3 {info : Info} (b : Book BidEntry)
    (h : ∀ kv ∈ b, bidSane info kv.1 kv.2 = true) :
    b.map (fun kv => (kv.1, convertEntry kv.2)) = b := by
  induction b with
  | nil => rfl
  | cons hd tl ih =>
    have hh := h hd (List.mem_cons_self ..)
    have ht := ih (fun kv hk => h kv (List.mem_cons_of_mem _ hk))
    obtain ⟨k, e⟩ := hd
    cases e with
    | v2 x => simp [bidSane] at hh
    | v3 x =>
      show (k, convertEntry (.v3 x)) :: tl.map (fun kv => (kv.1, convertEntry kv.2)) = _
      rw [ht]; rfl

/-- C14 on a sane book: an accepted migration leaves *both* sides of the book exactly as they
    were (no bid is rewritten: all are in the current format), whatever the stored version -/
theorem migrate_book_same (env : Env) (s s' : State) (m : MigMsg) (r : Response) (hs : sane s = true)
    (h : migrate env s m = .ok (s', r)) : s'.asks = s.asks ∧ s'.bids = s.bids := by
  obtain ⟨_, ⟨v, _, _, hb⟩, _, _, _, _, _, ha, _⟩ := migrate_ok h
  refine ⟨ha, ?_⟩
  rw [hb]
  split
  · exact map_convert_of_v3 s.bids (sane_iff.mp hs).bids
  · rfl

/-- an accepted migration preserves the structural invariant -/
theorem migrate_sane (env : Env) (s s' : State) (m : MigMsg) (r : Response) (hs : sane s = true)
    (h : migrate env s m = .ok (s', r)) : sane s' = true := by
  obtain ⟨ha, hb⟩ := migrate_book_same env s s' m r hs h
  obtain ⟨_, _, _, hfa, hfb, hinfo, _, _, _⟩ := migrate_ok h
  -- the configuration changes as under `modify` with the executors left alone
  exact sane_iff.mpr ((sane_iff.mp hs).ofMarket (by rw [hinfo]; exact infoSane_modify (ex := none) (sane_info hs) nofun hfa hfb)
    ha hb (by rw [hinfo]) (by rw [hinfo]) (by rw [hinfo]) (by rw [hinfo]))

/-- … and the pro-rata fee invariant (it only reads the bids) -/
theorem migrate_feeExact (env : Env) (s s' : State) (m : MigMsg) (r : Response) (hs : sane s = true)
    (hfe : feeExact s = true) (h : migrate env s m = .ok (s', r)) : feeExact s' = true := by
  unfold feeExact at *
  rw [(migrate_book_same env s s' m r hs h).2]
  exact hfe

/-- C06 / C15 for bids carried over from the event-log format: after an accepted migration from
    a format-changing version whose result is a consistent book (`sane` – a decidable condition
    on the converted amounts, evaluated by the driver on every such migration), an old-format bid
    is on the book as a current-format bid with the same owner, terms and remaining amounts
    (the fold over its event log), and its owner can cancel it with a plain request: the
    request succeeds, returns exactly those remaining amounts and removes the order – the bid
    behaves like a native one -/
theorem C06_carried_over (env : Env) (s s' : State) (m : MigMsg) (r : Response)
    (h : migrate env s m = .ok (s', r)) (hw : inWindow s = true) (hs' : sane s' = true)
    (k : String) (old : BidV2) (hk : s.bids.get? k = some (.v2 old)) :
    ∃ b, loadBid s' k = some b ∧ b.owner = old.owner ∧ b.price = old.price ∧ b.base = old.base ∧
      b.quote = old.quote ∧ b.fee = old.fee ∧ (b.remBase, b.remQuote, b.remFee) = v2Remaining old ∧
      ∃ s'' r', execute env s' ⟨b.owner, [], .cancelBid k⟩ = .ok (s'', r') ∧
        C06_bidExitOK env.contract s' k r' s'' = true := by
  obtain ⟨_, ⟨v, hp, _, hb⟩, _⟩ := migrate_ok h
  have hwin : (v.geReq 0 16 2 && v.ltReq 0 19 1) = true := by simpa [inWindow, hp] using hw
  have hget : s'.bids.get? k = some (.v3 old.convert) := by
    rw [hb, if_pos hwin, get?_map_convert, hk]; rfl
  have hload : loadBid s' k = some old.convert := loadBid_some.mpr hget
  obtain ⟨h1, h2, h3, _, h5, h6, h7⟩ := C15_convert old
  refine ⟨old.convert, hload, h5, h6, h1, h2, h3, h7, ?_⟩
  exact C06_cancel_bid env s' k old.convert hs' hload

end Ats.Proofs
