/-
  C09 — "to the nearest unit": for one bid entry, and in every reachable state.
  Kept apart from `History` because `DecNear` brings in Mathlib (`linarith`).
-/
import AtsProofs.DecNear
import AtsProofs.History
namespace Ats.Proofs
open Ats Ats.Spec Ats.Dec

/-- a bid that holds exactly the fee the decimal pipeline says its unspent quote needs holds,
    below the magnitude bound `4·F·Q ≤ 10^28`, an integer nearest to `F·q/Q` -/
theorem C09_near_of_exact (e : BidEntry) (hfe : feeExactBid e = true) (hsm : C09_small e = true) :
    C09_bidNear e = true := by
  cases e with
  | v2 b => rfl
  | v3 b =>
    simp only [feeExactBid] at hfe
    simp only [C09_bidNear]
    simp only [C09_small] at hsm
    cases hf : b.fee with
    | none => simp
    | some f =>
      simp only [hf] at hfe ⊢
      cases hff : Dec.feeFor f.amount b.quote.amount b.remQuote with
      | err e => simp [hff] at hfe
      | ok n =>
        simp only [hff, beq_iff_eq] at hfe
        have hb : 4 * (f.amount * b.quote.amount) ≤ 10 ^ 28 := by
          simp only [Bid.feeAmount, hf, decide_eq_true_eq] at hsm
          rw [← Nat.mul_assoc]; exact hsm
        obtain ⟨h1, h2⟩ := feeFor_near hb hff
        unfold nearestFee
        rw [hfe]
        simp only [Bool.and_eq_true, decide_eq_true_eq]
        exact ⟨by rw [Nat.mul_comm n] at h1; rw [Nat.mul_comm n]; exact h1,
               by rw [Nat.mul_comm n] at h2; rw [Nat.mul_comm n]; exact h2⟩

theorem C09_nearM {s : State} (h : ReachM s) (k : String) (e : BidEntry)
    (hk : s.bids.get? k = some e) (hsm : C09_small e = true) : C09_bidNear e = true := by
  have hfe := (reachM_inv h).2
  unfold feeExact at hfe
  rw [List.all_eq_true] at hfe
  exact C09_near_of_exact e (hfe (k, e) (Book.get?_some_mem hk)) hsm

/-- C09 (nearest unit): in every reachable state every open bid below the magnitude bound holds
    a fee that is an integer nearest to original fee × unspent quote / original quote -/
theorem C09_near {s : State} (h : Reach s) (k : String) (e : BidEntry)
    (hk : s.bids.get? k = some e) (hsm : C09_small e = true) : C09_bidNear e = true :=
  C09_nearM (reachM_of_reach h) k e hk hsm

end Ats.Proofs
