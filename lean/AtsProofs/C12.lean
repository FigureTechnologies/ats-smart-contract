/-
  C12 — Configuration changes cannot move the terms under open orders.
-/
import AtsProofs.C11
namespace Ats.Proofs
open Ats Ats.Spec

/-- a fee pair that passed `FeeRateKept` while the side is open leaves the rate the same number -/
theorem sameRate_of_kept {cur : Option FeeInfo} {rate acct : Option String}
    (hk : FeeRateKept true cur rate) (hp : pairOk rate acct = true)
    (hcur : rateOK cur = true) :
    sameRate cur (feeAfter cur rate acct) = true := by
  unfold feeAfter
  cases rate with
  | none =>
    cases acct with
    | none =>
      cases cur with
      | none => rfl
      | some c =>
        simp only [rateOK, Option.isSome_iff_exists] at hcur
        obtain ⟨p, hp⟩ := hcur
        simp [sameRate, hp, Dec.eqv]
    | some a => simp [pairOk] at hp
  | some r =>
    cases acct with
    | none => simp [pairOk] at hp
    | some a =>
      obtain ⟨c, x, y, rfl, hx, hy, he⟩ := hk rfl r rfl
      by_cases hc : a = "" ∧ r = ""
      · obtain ⟨_, rfl⟩ := hc
        simp [Dec.parse, Dec.parseFull] at hy
      · simp [hc, sameRate, hx, hy, he]

/-- C12: an accepted configuration change, judged field by field: market parameters untouched;
    while asks (bids) are open the ask (bid) fee rate is the same number and the ask (bid)
    attribute list is unchanged; while any order is open no current approver is dropped;
    omitted fields keep their value and supplied ones are installed verbatim (the empty pair
    clears a fee); role lists cannot be set empty; both books and the version are untouched -/
theorem C12_modify (env : Env) (s s' : State) (c : Call) (r : Response)
    (hs : infoSane s.info = true) (hm : isModify c.msg = true)
    (h : execute env s c = .ok (s', r)) : C12_modifyOK s c.msg s' = true := by
  unfold execute at h
  simp only [Res.bind_eq_ok, guardR_eq_ok] at h
  obtain ⟨_, hv, h⟩ := h
  cases hc : c.msg <;> simp only [hc, isModify] at hm h hv <;> try (cases hm)
  rename_i ap ex ar aa br ba at_ bt
  obtain ⟨_, _, h1, h2, h3, h4, h5, _, _, _, _, _, rfl, _⟩ := modifyContract_ok h
  simp only [ExecMsg.valid, Bool.and_eq_true] at hv
  obtain ⟨⟨⟨hv1, hv2⟩, hv3⟩, hv4⟩ := hv
  unfold infoSane at hs
  simp only [Bool.and_eq_true] at hs
  obtain ⟨⟨_, hra⟩, hrb⟩ := hs
  unfold C12_modifyOK
  simp only [marketSame, beq_self_eq_true, Bool.and_true, Bool.true_and, Bool.and_eq_true,
    Bool.or_eq_true, beq_iff_eq]
  refine ⟨⟨⟨⟨?_, ?_⟩, ?_⟩, hv1⟩, hv2⟩
  · by_cases he : s.asks.isEmpty = true
    · exact Or.inl he
    · right
      have he' : s.asks.isEmpty = false := by simpa using he
      refine ⟨sameRate_of_kept (by simpa [he'] using h2) hv3 hra, ?_⟩
      rw [h1 he']; rfl
  · by_cases he : s.bids.isEmpty = true
    · exact Or.inl he
    · right
      have he' : s.bids.isEmpty = false := by simpa using he
      refine ⟨sameRate_of_kept (by simpa [he'] using h4) hv4 hrb, ?_⟩
      rw [h3 he']; rfl
  · by_cases he : s.asks.isEmpty = true ∧ s.bids.isEmpty = true
    · exact Or.inl he
    · right
      have : s.asks.isEmpty = false ∨ s.bids.isEmpty = false := by
        by_cases ha : s.asks.isEmpty = true
        · right; by_cases hb : s.bids.isEmpty = true
          · exact absurd ⟨ha, hb⟩ he
          · simpa using hb
        · left; simpa using ha
      cases hap : ap with
      | none =>
        simp only [Option.getD_none, subsetS, List.all_eq_true]
        intro x hx
        simp only [memS, List.any_eq_true]
        exact ⟨x, hx, by simp⟩
      | some l => exact h5 this l hap

/-- no execute request of any kind changes the market parameters: name, base, convertible and
    quote denominations, price precision, size increment -/
theorem C12_market (env : Env) (s s' : State) (c : Call) (r : Response) (hs : sane s = true)
    (h : execute env s c = .ok (s', r)) : marketSame s.info s'.info = true := by
  by_cases hm : isModify c.msg = true
  · have := C12_modify env s s' c r (sane_info hs) hm h
    unfold C12_modifyOK at this
    cases hc : c.msg <;> simp only [hc, isModify] at hm this <;> try (cases hm)
    simp only [Bool.and_eq_true] at this
    exact this.1.1.1.1.1.1.1.1.1.1.1.1.1.1
  · have hf := (C11_frame env s s' c r hs h).info (by simpa using hm)
    rw [hf]; simp [marketSame]

section
open Ats.Dec

/-- signed mantissa -/
def sval (a : Dec) : Int := if a.neg then -(a.mant : Int) else (a.mant : Int)

theorem num_eq_sval (a b : Dec) : num a b = sval a * (10 : Int) ^ b.scale := by
  unfold num sval
  split <;> simp [Int.natCast_mul, Int.natCast_pow, Int.neg_mul]

/-- equality by value is transitive, whatever the signs -/
theorem eqv_trans_gen {a b c : Dec} (h1 : eqv a b = true) (h2 : eqv b c = true) : eqv a c = true := by
  unfold eqv at *
  simp only [beq_iff_eq, num_eq_sval] at *
  have hb : ((10 : Int) ^ b.scale) ≠ 0 := Int.pow_ne_zero (by decide)
  apply Int.eq_of_mul_eq_mul_right hb
  calc sval a * 10 ^ c.scale * 10 ^ b.scale
      = (sval a * 10 ^ b.scale) * 10 ^ c.scale := by ac_rfl
    _ = (sval b * 10 ^ a.scale) * 10 ^ c.scale := by rw [h1]
    _ = (sval b * 10 ^ c.scale) * 10 ^ a.scale := by ac_rfl
    _ = (sval c * 10 ^ b.scale) * 10 ^ a.scale := by rw [h2]
    _ = sval c * 10 ^ a.scale * 10 ^ b.scale := by ac_rfl

theorem sameRate_refl {f : Option FeeInfo} (h : rateOK f = true) : sameRate f f = true := by
  cases f with
  | none => rfl
  | some c =>
    simp only [rateOK, Option.isSome_iff_exists] at h
    obtain ⟨p, hp⟩ := h
    simp [sameRate, hp, Dec.eqv]

theorem sameRate_trans {f g h : Option FeeInfo} (h1 : sameRate f g = true) (h2 : sameRate g h = true) :
    sameRate f h = true := by
  cases f with
  | none =>
    cases g with
    | none => exact h2
    | some y => simp [sameRate] at h1
  | some x =>
    cases g with
    | none => simp [sameRate] at h1
    | some y =>
      cases h with
      | none => simp [sameRate] at h2
      | some z =>
        simp only [sameRate] at h1 h2 ⊢
        cases hx : Dec.parse x.rate with
        | none => simp [hx] at h1
        | some px =>
          cases hy : Dec.parse y.rate with
          | none => simp [hx, hy] at h1
          | some py =>
            cases hz : Dec.parse z.rate with
            | none => simp [hy, hz] at h2
            | some pz =>
              simp only [hx, hy, hz] at h1 h2 ⊢
              exact eqv_trans_gen h1 h2

theorem memS_iff {x : String} {l : List String} : memS x l = true ↔ x ∈ l := by
  unfold memS
  simp only [List.any_eq_true, beq_iff_eq]
  exact ⟨fun ⟨y, hy, e⟩ => e ▸ hy, fun h => ⟨x, h, rfl⟩⟩

theorem subsetS_iff {a b : List String} : subsetS a b = true ↔ ∀ x ∈ a, x ∈ b := by
  unfold subsetS
  simp only [List.all_eq_true, memS_iff]

theorem subsetS_refl (a : List String) : subsetS a a = true := subsetS_iff.mpr fun _ h => h

theorem subsetS_trans {a b c : List String} (h1 : subsetS a b = true) (h2 : subsetS b c = true) :
    subsetS a c = true :=
  subsetS_iff.mpr fun x hx => subsetS_iff.mp h2 x (subsetS_iff.mp h1 x hx)

theorem marketSame_refl (i : Info) : marketSame i i = true := by simp [marketSame]

theorem marketSame_trans {i j k : Info} (h1 : marketSame i j = true) (h2 : marketSame j k = true) :
    marketSame i k = true := by
  unfold marketSame at *
  simp only [Bool.and_eq_true, beq_iff_eq] at *
  obtain ⟨⟨⟨⟨⟨⟨a1, a2⟩, a3⟩, a4⟩, a5⟩, a6⟩, a7⟩ := h1
  obtain ⟨⟨⟨⟨⟨⟨b1, b2⟩, b3⟩, b4⟩, b5⟩, b6⟩, b7⟩ := h2
  exact ⟨⟨⟨⟨⟨⟨b1.trans a1, b2.trans a2⟩, b3.trans a3⟩, b4.trans a4⟩, b5.trans a5⟩, b6.trans a6⟩, b7.trans a7⟩

/-- what an open order of a side is entitled to see unchanged between two states -/
structure TermsKept (asksOpen bidsOpen : Bool) (i i' : Info) : Prop where
  market : marketSame i i' = true
  askSide : asksOpen = true → sameRate i.askFee i'.askFee = true ∧ i'.askAttrs = i.askAttrs
  bidSide : bidsOpen = true → sameRate i.bidFee i'.bidFee = true ∧ i'.bidAttrs = i.bidAttrs
  approvers : (asksOpen = true ∨ bidsOpen = true) → subsetS i.approvers i'.approvers = true

theorem TermsKept.refl {ao bo : Bool} {i : Info} (hi : infoSane i = true) : TermsKept ao bo i i := by
  unfold infoSane at hi
  simp only [Bool.and_eq_true] at hi
  exact ⟨marketSame_refl i, fun _ => ⟨sameRate_refl hi.1.2, rfl⟩, fun _ => ⟨sameRate_refl hi.2, rfl⟩,
    fun _ => subsetS_refl _⟩

/-- the second stretch may promise more (more sides open) than is asked of the whole -/
theorem TermsKept.trans {ao bo ao' bo' : Bool} {i j k : Info} (h1 : TermsKept ao bo i j)
    (h2 : TermsKept ao' bo' j k) (ha : ao = true → ao' = true) (hb : bo = true → bo' = true) :
    TermsKept ao bo i k where
  market := marketSame_trans h1.market h2.market
  askSide o :=
    have ⟨r1, a1⟩ := h1.askSide o
    have ⟨r2, a2⟩ := h2.askSide (ha o)
    ⟨sameRate_trans r1 r2, a2.trans a1⟩
  bidSide o :=
    have ⟨r1, a1⟩ := h1.bidSide o
    have ⟨r2, a2⟩ := h2.bidSide (hb o)
    ⟨sameRate_trans r1 r2, a2.trans a1⟩
  approvers o := subsetS_trans (h1.approvers o) (h2.approvers (o.imp ha hb))

/-- C12, one step, every kind of request: the terms are kept for whichever side has an open
    order in the pre-state -/
theorem C12_step_terms (env : Env) (s s' : State) (c : Call) (r : Response) (hs : sane s = true)
    (h : execute env s c = .ok (s', r)) :
    TermsKept (!s.asks.isEmpty) (!s.bids.isEmpty) s.info s'.info := by
  have hi := sane_info hs
  by_cases hm : isModify c.msg = true
  · have hok := C12_modify env s s' c r hi hm h
    unfold C12_modifyOK at hok
    cases hc : c.msg <;> simp only [hc, isModify] at hm hok <;> try (cases hm)
    simp only [Bool.and_eq_true, Bool.or_eq_true, beq_iff_eq] at hok
    obtain ⟨⟨⟨⟨⟨⟨⟨⟨⟨⟨⟨⟨⟨⟨hmk, hA⟩, hB⟩, hP⟩, _⟩, _⟩, _⟩, _⟩, _⟩, _⟩, _⟩, _⟩, _⟩, _⟩, _⟩ := hok
    refine ⟨hmk, ?_, ?_, ?_⟩
    · intro ho
      rcases hA with he | ⟨h1, h2⟩
      · simp [he] at ho
      · exact ⟨h1, h2⟩
    · intro ho
      rcases hB with he | ⟨h1, h2⟩
      · simp [he] at ho
      · exact ⟨h1, h2⟩
    · intro ho
      rcases hP with ⟨he1, he2⟩ | h1
      · rcases ho with ho | ho <;> simp [he1, he2] at ho
      · exact h1
  · have hf := (C11_frame env s s' c r hs h).info (by simpa using hm)
    rw [hf]
    exact .refl hi

theorem isEmpty_false_of_get {V : Type} {b : Book V} {k : String} {v : V} (h : b.get? k = some v) :
    (!b.isEmpty) = true := by
  cases b with
  | nil => simp [Book.get?] at h
  | cons _ _ => rfl

end

end Ats.Proofs
