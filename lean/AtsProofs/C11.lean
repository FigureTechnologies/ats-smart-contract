/-
  C11 — Order integrity: immutable terms, shrinking remainders, no interference.
-/
import AtsProofs.Inv
namespace Ats.Proofs
open Ats Ats.Spec

/-- a key outside the one-element list of keys a request names differs from that key -/
theorem ne_of_not_named {k id : String} {l : List String} (hl : l = [id]) (hk : memS k l = false) : k ≠ id :=
  memS_singleton_false.mp (hl ▸ hk)

/-- the effect of an accepted request on the two books, the configuration and the version -/
structure Frame (s : State) (m : ExecMsg) (s' : State) : Prop where
  asks : ∀ k, memS k (namedAsks m) = false → s'.asks.get? k = s.asks.get? k
  bids : ∀ k, memS k (namedBids m) = false → s'.bids.get? k = s.bids.get? k
  version : s'.version = s.version
  info : isModify m = false → s'.info = s.info

/-- C11 (no interference): an accepted request changes only the orders it names – one ask or
    bid for create / approve / cancel / expire / reject, the named ask and bid for a match –
    and never the other side of the book, the configuration or the version record -/
theorem C11_frame (env : Env) (s s' : State) (c : Call) (r : Response) (hs : sane s = true)
    (h : execute env s c = .ok (s', r)) : Frame s c.msg s' := by
  cases (execute_ok h).2 with
  | createAsk id base quote price size hm h =>
    obtain ⟨_, _, _, _, _, _, _, _, _, rfl, _⟩ := createAsk_ok h
    exact ⟨fun k hk => Book.get?_set_ne _ _ _ _ (ne_of_not_named (by rw [hm]; rfl) hk), fun _ _ => rfl, rfl,
      fun _ => rfl⟩
  | createBid id base fee price quote qs size hm h =>
    obtain ⟨_, _, _, _, _, _, _, _, _, _, _, _, _, _, _, _, _, _, _, _, rfl, _⟩ := createBid_ok h
    exact ⟨fun _ _ => rfl, fun k hk => Book.get?_set_ne _ _ _ _ (ne_of_not_named (by rw [hm]; rfl) hk), rfl,
      fun _ => rfl⟩
  | approveAsk id base size hm h =>
    obtain ⟨a, _, _, _, _, _, _, _, rfl, _⟩ := approveAsk_ok h
    exact ⟨fun k hk => Book.get?_set_ne _ _ _ _ (ne_of_not_named (by rw [hm]; rfl) hk), fun _ _ => rfl, rfl,
      fun _ => rfl⟩
  | cancelAsk id hm h =>
    obtain ⟨a, _, ha, _, _, _, rfl, _⟩ := cancelAsk_ok h
    rw [(sane_ask_facts hs ha).id_eq]
    exact ⟨fun k hk => Book.get?_del_ne _ _ _ (ne_of_not_named (by rw [hm]; rfl) hk), fun _ _ => rfl, rfl,
      fun _ => rfl⟩
  | reverseAsk id requested hm h =>
    obtain ⟨a, _, _, ha, _, _, _, _, rfl, _⟩ := reverseAsk_ok h
    rw [(sane_ask_facts hs ha).id_eq]
    have hn : namedAsks c.msg = [id] := by rcases hm with ⟨hm, _⟩ | hm <;> rw [hm] <;> rfl
    exact ⟨fun k hk => putAsk_get_ne _ _ _ _ (ne_of_not_named hn hk), fun _ _ => rfl, rfl, fun _ => rfl⟩
  | reverseBid id requested hm h =>
    obtain ⟨b, _, _, _, _, _, hb, _, _, _, _, _, _, _, _, _, _, rfl, _⟩ := reverseBid_ok h
    rw [(sane_bid_v3 hs hb).id_eq]
    have hn : namedBids c.msg = [id] := by rcases hm with ⟨hm | hm, _⟩ | hm <;> rw [hm] <;> rfl
    exact ⟨fun _ _ => rfl, fun k hk => putBid_get_ne _ _ _ _ (ne_of_not_named hn hk), rfl, fun _ => rfl⟩
  | executeMatch askId bidId price size hm h =>
    obtain ⟨a, b, _, _, _, _, _, _, _, _, _, rp, _, _, _, _, _, _, _, _, _, _, _, _, _, _, _, _, _, _, _, _, _, rfl, _⟩ :=
      executeMatch_ok h
    exact ⟨fun k hk => putAsk_get_ne _ _ _ _ (ne_of_not_named (by rw [hm]; rfl) hk),
      fun k hk => putBid_get_ne _ _ _ _ (ne_of_not_named (by rw [hm]; rfl) hk), rfl, fun _ => rfl⟩
  | modify ap ex ar aa br ba at_ bt hm h =>
    obtain ⟨_, _, _, _, _, _, _, _, _, _, _, _, rfl, _⟩ := modifyContract_ok h
    exact ⟨fun _ _ => rfl, fun _ _ => rfl, rfl, fun hf => by simp [hm, isModify] at hf⟩

/-- a configuration change leaves both books exactly as they were -/
theorem C11_modify_books (env : Env) (s s' : State) (c : Call) (r : Response)
    (hm : isModify c.msg = true) (h : execute env s c = .ok (s', r)) :
    s'.asks = s.asks ∧ s'.bids = s.bids := by
  unfold execute at h
  simp only [Res.bind_eq_ok, guardR_eq_ok] at h
  obtain ⟨_, _, h⟩ := h
  cases hc : c.msg <;> simp only [hc, isModify] at hm h <;> try (cases hm)
  obtain ⟨_, _, _, _, _, _, _, _, _, _, _, _, rfl, _⟩ := modifyContract_ok h
  exact ⟨rfl, rfl⟩

theorem askImmutable_refl (a : Ask) : askImmutable a a = true := by
  unfold askImmutable
  cases a.cls <;> simp

theorem askImmutable_reduce (a : Ask) (n : Nat)
    (hc : ∀ ap c, a.cls = .ready ap c → c.amount = a.size) : askImmutable a (a.reduce n) = true := by
  unfold askImmutable Ask.reduce
  cases h : a.cls <;> simp
  rename_i ap c
  rw [hc ap c h]; omega

theorem askImmutable_trans {a b c : Ask} (h1 : askImmutable a b = true) (h2 : askImmutable b c = true) :
    askImmutable a c = true := by
  unfold askImmutable at *
  simp only [Bool.and_eq_true, beq_iff_eq, decide_eq_true_eq] at h1 h2 ⊢
  obtain ⟨⟨⟨⟨⟨⟨i1, o1⟩, b1⟩, q1⟩, p1⟩, s1⟩, c1⟩ := h1
  obtain ⟨⟨⟨⟨⟨⟨i2, o2⟩, b2⟩, q2⟩, p2⟩, s2⟩, c2⟩ := h2
  refine ⟨⟨⟨⟨⟨⟨i2.trans i1, o2.trans o1⟩, b2.trans b1⟩, q2.trans q1⟩, p2.trans p1⟩, Nat.le_trans s2 s1⟩, ?_⟩
  cases ha : a.cls <;> cases hb : b.cls <;> cases hc : c.cls <;> simp [ha, hb, hc] at c1 c2 ⊢
  obtain ⟨⟨e1, d1⟩, l1⟩ := c1
  obtain ⟨⟨e2, d2⟩, l2⟩ := c2
  exact ⟨⟨e1.trans e2, d1.trans d2⟩, Nat.le_trans l2 l1⟩

theorem bidImmutable_refl (b : Bid) : bidImmutable (.v3 b) (.v3 b) = true := by
  simp [bidImmutable]

theorem bidImmutable_acc (b : Bid) (x y z : Nat) :
    bidImmutable (.v3 b) (.v3 (b.accumulate x y z)) = true := by
  simp [bidImmutable, Bid.accumulate]

theorem bidImmutable_trans {a b c : BidEntry} (h1 : bidImmutable a b = true) (h2 : bidImmutable b c = true) :
    bidImmutable a c = true := by
  cases a with
  | v2 _ => simp [bidImmutable] at h1
  | v3 x =>
  cases b with
  | v2 _ => simp [bidImmutable] at h1
  | v3 y =>
  cases c with
  | v2 _ => simp [bidImmutable] at h2
  | v3 z =>
  simp only [bidImmutable, Bool.and_eq_true, beq_iff_eq, decide_eq_true_eq] at h1 h2 ⊢
  obtain ⟨⟨⟨⟨⟨⟨⟨⟨i1, o1⟩, p1⟩, b1⟩, q1⟩, f1⟩, x1⟩, y1⟩, z1⟩ := h1
  obtain ⟨⟨⟨⟨⟨⟨⟨⟨i2, o2⟩, p2⟩, b2⟩, q2⟩, f2⟩, x2⟩, y2⟩, z2⟩ := h2
  exact ⟨⟨⟨⟨⟨⟨⟨⟨i2.trans i1, o2.trans o1⟩, p2.trans p1⟩, b2.trans b1⟩, q2.trans q1⟩, f2.trans f1⟩,
    Nat.le_trans x1 x2⟩, Nat.le_trans y1 y2⟩, Nat.le_trans z1 z2⟩

theorem memS_singleton_true {k x : String} (h : memS k [x] = true) : k = x := by
  unfold memS at h
  simp only [List.any_cons, List.any_nil, Bool.or_false, beq_iff_eq] at h
  exact h.symm

theorem askImmutable_put {asks : Book Ask} {k : String} {a a' : Ask} (n : Nat)
    (hc : ∀ ap c, a.cls = .ready ap c → c.amount = a.size)
    (ha' : (putAsk asks k (a.reduce n)).get? k = some a') : askImmutable a a' = true := by
  rw [putAsk_get_eq] at ha'
  split at ha'
  · cases ha'
  · cases ha'; exact askImmutable_reduce a n hc

theorem bidImmutable_put {bids : Book BidEntry} {k : String} {b b' : Bid} {e' : BidEntry}
    (hb : bidImmutable (.v3 b) (.v3 b') = true) (he' : (putBid bids k b').get? k = some e') :
    bidImmutable (.v3 b) e' = true := by
  rw [putBid_get_eq] at he'
  split at he'
  · cases he'
  · cases he'; exact hb

/-- C11 (immutable terms, shrinking remainders; asks): across any accepted request, an ask that
    is on the book before and after keeps its id, owner, denominations and price, its size does
    not grow, and its class changes at most from pending to approved (an approved ask keeps its
    approver and the approver amount does not grow) -/
theorem C11_ask_immutable (env : Env) (s s' : State) (c : Call) (r : Response) (hs : sane s = true)
    (h : execute env s c = .ok (s', r)) (k : String) (a a' : Ask)
    (ha : s.asks.get? k = some a) (ha' : s'.asks.get? k = some a') : askImmutable a a' = true := by
  by_cases hn : memS k (namedAsks c.msg) = false
  · have := (C11_frame env s s' c r hs h).asks k hn
    rw [ha, ha'] at this
    cases this
    exact askImmutable_refl a
  · have hn : memS k (namedAsks c.msg) = true := by simpa using hn
    have htr := fun ap cv hc => ((sane_ask_facts hs ha).tracks (ap := ap) (c := cv) hc).1
    cases (execute_ok h).2 with
    | createAsk id base quote price size hm h =>
      rw [hm] at hn; cases memS_singleton_true hn
      obtain ⟨_, _, _, _, _, _, _, hex, _⟩ := createAsk_ok h
      rw [ha] at hex; cases hex
    | approveAsk id base size hm h =>
      rw [hm] at hn; cases memS_singleton_true hn
      obtain ⟨a0, _, _, ha0, hp, _, _, _, rfl, _⟩ := approveAsk_ok h
      rw [ha] at ha0; cases ha0
      simp only [Book.get?_set_eq, Option.some.injEq] at ha'
      subst ha'
      simp [askImmutable, hp]
    | cancelAsk id hm h =>
      rw [hm] at hn; cases memS_singleton_true hn
      obtain ⟨a0, _, ha0, _, _, _, rfl, _⟩ := cancelAsk_ok h
      rw [ha] at ha0; cases ha0
      simp only [(sane_ask_facts hs ha).id_eq, Book.get?_del_eq] at ha'
      cases ha'
    | reverseAsk id requested hm h =>
      have : k = id := by rcases hm with ⟨hm, _⟩ | hm <;> rw [hm] at hn <;> exact memS_singleton_true hn
      subst this
      obtain ⟨a0, _, _, ha0, _, _, _, _, rfl, _⟩ := reverseAsk_ok h
      rw [ha] at ha0; cases ha0
      rw [(sane_ask_facts hs ha).id_eq] at ha'
      exact askImmutable_put _ htr ha'
    | executeMatch askId bidId price size hm h =>
      rw [hm] at hn; cases memS_singleton_true hn
      obtain ⟨a0, b, _, _, _, _, _, _, _, _, _, rp, _, _, ha0, _, _, _, _, _, _, _, _, _, _, _, _, _, _, _, _, _, _, rfl, _⟩ :=
        executeMatch_ok h
      rw [ha] at ha0; cases ha0
      exact askImmutable_put _ htr ha'
    | createBid _ _ _ _ _ _ _ hm _ => rw [hm] at hn; cases hn
    | reverseBid _ _ hm _ => rcases hm with ⟨hm | hm, _⟩ | hm <;> rw [hm] at hn <;> cases hn
    | modify _ _ _ _ _ _ _ _ hm _ => rw [hm] at hn; cases hn

/-- C11 (immutable terms, shrinking remainders; bids): across any accepted request, a bid that
    is on the book before and after keeps its id, owner, price, and original base, quote and
    fee, and its consumed amounts do not decrease (so its remaining amounts do not grow) -/
theorem C11_bid_immutable (env : Env) (s s' : State) (c : Call) (r : Response) (hs : sane s = true)
    (h : execute env s c = .ok (s', r)) (k : String) (e e' : BidEntry)
    (he : s.bids.get? k = some e) (he' : s'.bids.get? k = some e') : bidImmutable e e' = true := by
  obtain ⟨b, rfl⟩ : ∃ b, e = .v3 b := by
    have := sane_bid hs he
    cases e with
    | v2 _ => simp [bidSane] at this
    | v3 b => exact ⟨b, rfl⟩
  have hlb : loadBid s k = some b := loadBid_some.mpr he
  by_cases hn : memS k (namedBids c.msg) = false
  · have := (C11_frame env s s' c r hs h).bids k hn
    rw [he, he'] at this
    cases this
    exact bidImmutable_refl b
  · have hn : memS k (namedBids c.msg) = true := by simpa using hn
    cases (execute_ok h).2 with
    | createBid id base fee price quote qs size hm h =>
      rw [hm] at hn; cases memS_singleton_true hn
      obtain ⟨_, _, _, _, _, _, _, _, _, _, _, _, _, _, _, _, _, _, hex, _⟩ := createBid_ok h
      rw [he] at hex; cases hex
    | reverseBid id requested hm h =>
      have : k = id := by
        rcases hm with ⟨hm | hm, _⟩ | hm <;> rw [hm] at hn <;> exact memS_singleton_true hn
      subst this
      obtain ⟨b0, _, _, _, _, _, hb0, _, _, _, _, _, _, _, _, _, _, rfl, _⟩ := reverseBid_ok h
      rw [hlb] at hb0; cases hb0
      rw [(sane_bid_v3 hs hlb).id_eq] at he'
      exact bidImmutable_put (bidImmutable_acc _ _ _ _) he'
    | executeMatch askId bidId price size hm h =>
      rw [hm] at hn; cases memS_singleton_true hn
      obtain ⟨a0, b0, _, _, _, _, gross, _, bidFee, _, _, rp, _, _, _, hb0, _, _, _, _, _, _, _, _, _, _, _, _, _, _, _, _, hrp, rfl, _⟩ :=
        executeMatch_ok h
      rw [hlb] at hb0; cases hb0
      refine bidImmutable_put ?_ he'
      rcases refundPart_ok.mp hrp with ⟨_, rfl⟩ | ⟨_, _, _, _, _, _, _, _, _, _, _, rfl⟩
      · exact bidImmutable_acc _ _ _ _
      · exact bidImmutable_trans (bidImmutable_acc _ _ _ _) (bidImmutable_acc _ _ _ _)
    | createAsk _ _ _ _ _ hm _ => rw [hm] at hn; cases hn
    | approveAsk _ _ _ hm _ => rw [hm] at hn; cases hn
    | cancelAsk _ hm _ => rw [hm] at hn; cases hn
    | reverseAsk _ _ hm _ => rcases hm with ⟨hm, _⟩ | hm <;> rw [hm] at hn <;> cases hn
    | modify _ _ _ _ _ _ _ _ hm _ => rw [hm] at hn; cases hn

end Ats.Proofs
