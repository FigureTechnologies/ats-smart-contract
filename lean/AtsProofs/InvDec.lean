/-
  AtsProofs.InvDec — on a sane book the products the reversal paths form are exact.
-/
import AtsProofs.Inv
import AtsProofs.DecLemmas
namespace Ats
open Ats Ats.Spec

theorem priceOK_parse {info : Info} {price : String} (h : priceOK info price = true) :
    ∃ p, Dec.parse price = some p ∧ p.isZero = false ∧ p.neg = false ∧
      Dec.badPrecision p info.precision = some false := by
  unfold priceOK at h
  cases hq : Dec.parse price with
  | none => simp [hq] at h
  | some p =>
    simp only [hq, Bool.and_eq_true, Bool.not_eq_true', beq_iff_eq] at h
    exact ⟨p, rfl, h.1.1, h.1.2, h.2⟩

theorem infoSane_inc {info : Info} (h : infoSane info = true) :
    info.precision ≤ 18 ∧ 1 ≤ info.increment ∧ info.increment % 10 ^ info.precision = 0 := by
  unfold infoSane at h
  simp only [Bool.and_eq_true, decide_eq_true_eq, beq_iff_eq] at h
  exact ⟨h.1.1.1.1.1, h.1.1.1.1.2, h.1.1.1.2⟩

/-- the arithmetic the precision / increment rule is there for: a price with at most `precision`
    decimals times a multiple of an increment that is a multiple of `10^precision` is whole -/
theorem whole_of_grid {precision increment size : Nat} {p : Dec}
    (hinc : increment % 10 ^ precision = 0) (hprice : (p.mant * 10 ^ precision) % 10 ^ p.scale = 0)
    (hsize : size % increment = 0) : wholeProduct p size = true := by
  have h1 : 10 ^ precision ∣ increment := Nat.dvd_of_mod_eq_zero hinc
  have h2 : increment ∣ size := Nat.dvd_of_mod_eq_zero hsize
  have h3 : 10 ^ p.scale ∣ p.mant * 10 ^ precision := Nat.dvd_of_mod_eq_zero hprice
  obtain ⟨k, hk⟩ := Nat.dvd_trans h1 h2
  have : 10 ^ p.scale ∣ p.mant * size := by
    rw [hk, ← Nat.mul_assoc]
    exact Nat.dvd_trans h3 (Nat.dvd_mul_right _ _)
  simp [wholeProduct, Nat.mod_eq_zero_of_dvd this]

/-- `price × (a lot multiple)` is whole on a sane configuration -/
theorem whole_lot {info : Info} {price : String} {p : Dec} {n : Nat}
    (hi : infoSane info = true) (hp : priceOK info price = true) (hpp : Dec.parse price = some p)
    (hn : n % info.increment = 0) : wholeProduct p n = true := by
  obtain ⟨p', hp', _, _, hb⟩ := priceOK_parse hp
  rw [hpp] at hp'; cases hp'
  exact whole_of_grid (infoSane_inc hi).2.2
    (Dec.badPrecision_exact (Dec.parse_scale hpp) (Dec.parse_mant hpp) hb) hn

theorem exactMul_of_whole {p : Dec} {n : Nat} (hn : n < LIM) (hw : wholeProduct p n = true) :
    exactMul p n = true := by
  unfold exactMul
  unfold wholeProduct at hw
  simp [hn, hw]

/-- `price × (unfilled size)` is whole by the quote invariant -/
theorem whole_rem {b : Bid} {p : Dec} (hq : quoteInv b = true) (hpp : Dec.parse b.price = some p) :
    wholeProduct p b.remBase = true ∧ product p b.remBase = b.remQuote := by
  unfold quoteInv at hq
  simp only [hpp, beq_iff_eq] at hq
  unfold wholeProduct product
  rw [← hq]
  simp [Nat.mul_mod_left, Nat.mul_div_cancel _ (Dec.pow10_pos _)]

end Ats

namespace Ats.Proofs
open Ats Ats.Spec

/-! ### the total and the fee rate of an admitted bid -/

theorem eqv_ofNat {t : Dec} {n : Nat} (hneg : t.neg = false) (h : Dec.eqv t (Dec.ofNat n) = true) :
    t.mant = n * 10 ^ t.scale := by
  unfold Dec.eqv Dec.num Dec.ofNat at h
  simp only [hneg, Bool.false_eq_true, if_false, Nat.pow_zero, Nat.mul_one, beq_iff_eq] at h
  exact_mod_cast h

/-- the total `create_bid` compares with the stated quote size is that size -/
theorem total_eq_quoteSize {p total : Dec} {size qs : Nat} (hpn : p.neg = false)
    (ht : Dec.total p size = .ok total) (heq : Dec.eqv total (Dec.ofNat qs) = true) :
    total.neg = false ∧ total.mant = qs * 10 ^ total.scale ∧ total.trunc = qs := by
  have htn : total.neg = false := Dec.mul_nat_neg hpn (Dec.total_inv ht).2
  have hmant := eqv_ofNat htn heq
  exact ⟨htn, hmant, by unfold Dec.trunc; rw [hmant, Nat.mul_div_cancel _ (Dec.pow10_pos _)]⟩

/-- … and, when `price × size` is computed exactly, the whole number `price × size` -/
theorem createBid_total {price : String} {p total : Dec} {size qs : Nat} (hpn : p.neg = false)
    (hx : exactMul p size = true) (hpp : Dec.parse price = some p) (ht : Dec.total p size = .ok total)
    (hfr : total.hasFract = false) (heq : Dec.eqv total (Dec.ofNat qs) = true) :
    wholeProduct p size = true ∧ product p size = qs := by
  obtain ⟨htn, _, htrunc⟩ := total_eq_quoteSize hpn ht heq
  have htu : total.toU128 = some total.trunc := by simp [Dec.toU128, Dec.trunc, htn]
  obtain ⟨hw, hg⟩ := Dec.total_exact (Dec.parse_scale hpp) hpn hx ht hfr htu
  exact ⟨hw, by rw [← hg, htrunc]⟩

theorem bidRate_scale {info : Info} {rate : Dec} (h : bidRate info = some rate) : rate.scale ≤ 28 := by
  unfold bidRate at h
  cases hbf : info.bidFee with
  | none => simp only [hbf, Option.some.injEq] at h; subst h; exact Nat.zero_le _
  | some fi => simp only [hbf] at h; exact Dec.parse_scale h

end Ats.Proofs
