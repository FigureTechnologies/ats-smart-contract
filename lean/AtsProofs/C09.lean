/-
  C09 — Fee exactness: configured rate at entry, half-up rounding, pro-rata thereafter.
-/
import AtsProofs.Effects
namespace Ats.Proofs
open Ats Ats.Spec

/-- C09 entry: the fee escrowed with an admitted bid is the configured bid rate times
    price × size, rounded half away from zero, in the quote denomination (under the magnitude
    hypothesis on the two products, finding F6) -/
theorem C09_entry (env : Env) (s s' : State) (c : Call) (r : Response)
    (id base : String) (fee : Option Coin) (price quote : String) (qs size : Nat)
    (hm : c.msg = .createBid id base fee price quote qs size)
    (hexact : ∀ p rate, Dec.parse price = some p → bidRate s.info = some rate →
        exactMul p size = true ∧ exactMul rate qs = true)
    (h : execute env s c = .ok (s', r)) :
    ∃ p rate, Dec.parse price = some p ∧ bidRate s.info = some rate ∧ product p size = qs ∧
      admissibleFee rate qs = some (feeAmt fee) ∧ (∀ f, fee = some f → f.denom = quote) := by
  simp only [execute, hm, Res.bind_eq_ok, guardR_eq_ok] at h
  obtain ⟨_, _, h⟩ := h
  obtain ⟨p, total, rate, feeSize, hp, _, _, ht, hfr, _, heq, hrate, hfee, hfm, _, _, _, _, _, _, _, _⟩ :=
    createBid_ok h
  obtain ⟨hpp, _, hpn, _⟩ := checkPrice_ok.mp hp
  obtain ⟨hx1, hx2⟩ := hexact p rate hpp hrate
  obtain ⟨htn, hmant, _⟩ := total_eq_quoteSize hpn ht heq
  have hadm := Dec.rateFee_exact (bidRate_scale hrate) hmant htn hx2 hfee
  refine ⟨p, rate, hpp, hrate, (createBid_total hpn hx1 hpp ht hfr heq).2, ?_, fun f hf => ?_⟩
  · unfold feeMatches at hfm
    unfold feeAmt
    cases fee with
    | none => simp only at hfm ⊢; rw [hadm, hfm]
    | some f => simp only at hfm ⊢; rw [hadm, hfm.1]
  · unfold feeMatches at hfm
    rw [hf] at hfm
    exact hfm.2

/-- C09 entry, as the decidable predicate the driver evaluates on the implementation -/
theorem C09_entry_ok (env : Env) (s s' : State) (c : Call) (r : Response)
    (id base : String) (fee : Option Coin) (price quote : String) (qs size : Nat)
    (hm : c.msg = .createBid id base fee price quote qs size)
    (hexact : ∀ p rate, Dec.parse price = some p → bidRate s.info = some rate →
        exactMul p size = true ∧ exactMul rate qs = true)
    (h : execute env s c = .ok (s', r)) : C09_entryOK s fee price quote qs size = true := by
  obtain ⟨p, rate, hp, hr, h1, h2, h3⟩ := C09_entry env s s' c r id base fee price quote qs size hm hexact h
  unfold C09_entryOK
  simp only [hp, hr, h1, h2, beq_self_eq_true, Bool.true_and]
  cases fee with
  | none => rfl
  | some f => simp [h3 f rfl]

/-- C09 ask fee: the ask fee of an accepted match is the configured ask rate times the executed
    price × size, rounded half away from zero; C02 shows it is deducted from the seller's
    proceeds and paid to the ask-fee account -/
theorem C09_ask_fee (s : State) (a : Ask) (b : Bid) (price : String) (size : Nat) (m : MatchAmounts)
    (h : matchAmounts s a b price size = some m) :
    ∃ p, Dec.parse price = some p ∧ m.gross = product p size ∧ m.askFee = askFeeExact s.info m.gross := by
  unfold matchAmounts at h
  cases hp : Dec.parse price with
  | none => simp [hp] at h
  | some p =>
    cases hbp : Dec.parse b.price with
    | none => simp [hp, hbp] at h
    | some bp =>
      simp only [hp, hbp] at h
      split at h
      · simp only [Option.some.injEq] at h
        subst h
        exact ⟨p, rfl, rfl, rfl⟩
      · cases h

/-! ### pro-rata: the fee still held is the fee the unspent quote needs -/

theorem feeExact_iff {s : State} : feeExact s = true ↔ ∀ kv ∈ s.bids, feeExactBid kv.2 = true := by
  unfold feeExact; simp [List.all_eq_true]

theorem feeExactBid_new {base quote price id sender : String} {fee : Option Coin} {qs size feeSize : Nat}
    (hq : 1 ≤ qs) (hql : qs < LIM) (hfl : feeSize < LIM) (hfm : feeMatches fee feeSize quote) :
    feeExactBid (.v3 ⟨⟨base, size⟩, 0, 0, 0, fee, id, sender, price, ⟨quote, qs⟩⟩) = true := by
  unfold feeExactBid
  cases fee with
  | none => rfl
  | some f =>
    unfold feeMatches at hfm
    simp only at hfm
    have hF : f.amount < LIM := by rw [hfm.1]; exact hfl
    simp only [Bid.remQuote, Nat.sub_zero, Dec.feeFor_full (by omega) hql hF, Bid.remFee, Bid.feeAmount,
      beq_self_eq_true]

theorem feeExactBid_accumulate {b : Bid} {n q f : Nat} (hq : b.accQuote + q ≤ b.quote.amount)
    (hf : b.accFee + f ≤ b.feeAmount) (hk : FeeKept b q f) : feeExactBid (.v3 (b.accumulate n q f)) = true := by
  unfold feeExactBid
  cases hfe : b.fee with
  | none => simp [Bid.accumulate, hfe]
  | some fe =>
    have e1 : (b.accumulate n q f).remQuote = b.remQuote - q := by
      simp [Bid.accumulate, Bid.remQuote, Nat.sub_sub]
    have e2 : (b.accumulate n q f).remFee = b.remFee - f := by
      simp [Bid.accumulate, Bid.remFee, Bid.feeAmount, hfe, Nat.sub_sub]
    have e3 : (b.accumulate n q f).fee = some fe := by simp [Bid.accumulate, hfe]
    have e4 : (b.accumulate n q f).quote = b.quote := rfl
    simp only [e3, e1, e2, e4, hk fe hfe, beq_self_eq_true]

theorem feeExact_cutBid {s : State} {k : String} {b : Bid} {bp : Dec} {n q f : Nat}
    (hfe : ∀ kv ∈ s.bids, feeExactBid kv.2 = true) (hc : BidCut s.info k b bp n q f) :
    ∀ kv ∈ putBid s.bids k (b.accumulate n q f), feeExactBid kv.2 = true :=
  all_putBid hfe fun _ => feeExactBid_accumulate hc.effect.hq hc.effect.hf hc.kept

/-- C09 pro-rata: every accepted request preserves "each fee-bearing open bid holds exactly
    the fee its unspent quote needs" – so fees paid on fills and returned on refunds, rejects
    and cancels are pro-rata, and over a bid's life add up exactly to the fee escrowed -/
theorem C09_prorata (env : Env) (s s' : State) (c : Call) (r : Response)
    (hs : sane s = true) (hfe : feeExact s = true) (hx : ExactStep s c.msg)
    (h : execute env s c = .ok (s', r)) : feeExact s' = true := by
  have hv := (execute_ok h).1
  rw [feeExact_iff] at hfe ⊢
  cases effect hs hx h with
  | createAsk id base quote price size _ h =>
    obtain ⟨_, _, _, _, _, _, _, _, _, rfl, _⟩ := createAsk_ok h; exact hfe
  | createBid id base fee price quote qs size hm h =>
    simp only [hm, ExecMsg.valid, Bool.and_eq_true, decide_eq_true_eq] at hv
    obtain ⟨_, _, _, feeSize, _, _, _, _, _, hlim, _, _, hfee, hfm, _, _, _, _, _, _, rfl, _⟩ := createBid_ok h
    exact all_set hfe (feeExactBid_new hv.1.2 hlim (Dec.rateFee_lt hfee) hfm)
  | approveAsk id base size _ h =>
    obtain ⟨a, _, _, _, _, _, _, _, rfl, _⟩ := approveAsk_ok h; exact hfe
  | askReversal id requested a h => rw [h.state]; exact hfe
  | bidReversal id requested b bp q f h => rw [h.state]; exact feeExact_cutBid hfe h.cut
  | fill askId bidId price size a b bp m h => rw [h.state]; exact feeExact_cutBid hfe h.bidCut
  | modify ap ex ar aa br ba at_ bt _ h =>
    obtain ⟨_, _, _, _, _, _, _, _, _, _, _, _, rfl, _⟩ := modifyContract_ok h; exact hfe

/-- after instantiation there is no bid, so the pro-rata invariant holds -/
theorem C09_init (env : Env) (m : InstMsg) (s : State) (r : Response)
    (h : instantiate env m = .ok (s, r)) : feeExact s = true := by
  obtain ⟨_, _, _, _, rfl⟩ := instantiate_ok h
  rfl

/-- C09 totals: when a bid leaves the book – by a final fill or by a complete cancel, expiry
    or reject – the fee consumed on that step is exactly its whole unspent fee, so over the
    bid's life the fees paid, refunded and returned add up to the fee escrowed -/
theorem C09_final_match {b : Bid} {size q f : Nat} (h : BidEffect b size q f) (hsz : size = b.remBase) :
    f = b.remFee ∧ q = b.remQuote := ⟨(h.hfinal hsz).2, (h.hfinal hsz).1⟩



end Ats.Proofs
