/-
  C01 (continued) — the contract's cumulative ledger and what it means for it to balance
  against the book; the ledger order by order: the net money flow of an accepted request equals
  the change in the recorded remaining amounts of the orders it names, and an order that leaves
  the book has been paid everything it was owed.
-/
import AtsProofs.SaneStep
import AtsProofs.C01
import AtsProofs.C11
namespace Ats.Proofs
open Ats Ats.Spec

/-- cumulative ledger of the contract: everything received and everything paid out, per
    denomination -/
structure Ledger where
  recv : String → Nat
  paid : String → Nat

def Ledger.zero : Ledger := ⟨fun _ => 0, fun _ => 0⟩

def Ledger.add (L : Ledger) (contract : String) (c : Call) (r : Response) : Ledger :=
  ⟨fun d => L.recv d + fundsOf c.funds d + credit contract r.msgs contract d,
   fun d => L.paid d + debit contract r.msgs contract d⟩

/-- holdings (received − paid) equal what the book owes -/
def Balanced (s : State) (L : Ledger) : Prop := ∀ d, L.recv d = owed s d + L.paid d

theorem balanced_init (env : Env) (m : InstMsg) (s : State) (r : Response)
    (h : instantiate env m = .ok (s, r)) : Balanced s Ledger.zero := by
  obtain ⟨_, _, _, _, rfl⟩ := instantiate_ok h
  intro d
  rfl

/-- every payout of an accepted request is covered by what the contract held before plus what
    the request itself brought in: no request is answered with payouts the contract cannot fund -/
theorem C01_fundable (env : Env) (s s' : State) (L : Ledger) (c : Call) (r : Response) (d : String)
    (hs : sane s = true) (hb : Balanced s L) (hx : ExactStep s c.msg)
    (hsender : c.sender ≠ env.contract) (hself : NoSelfPay env.contract r.msgs)
    (h : execute env s c = .ok (s', r)) :
    debit env.contract r.msgs env.contract d ≤
      (L.recv d - L.paid d) + fundsOf c.funds d + credit env.contract r.msgs env.contract d := by
  have := denomOK_iff.mp (C01_step env s s' c r d hs hx hsender hself h)
  have hbd := hb d
  omega

/-- what the book owes, in denomination `d`, to the orders a request names -/
def namedOwed (s : State) (m : ExecMsg) (d : String) : Nat :=
  sumNat ((namedAsks m).map fun k => Book.at? (askOwes d) s.asks k) +
  sumNat ((namedBids m).map fun k => Book.at? (bidOwes d) s.bids k)

theorem memS_single (k x : String) : memS k [x] = false ↔ k ≠ x := memS_singleton_false

theorem sum_named {V : Type} (f : V → Nat) (b b' : Book V) (l : List String)
    (hl : l = [] ∨ ∃ k, l = [k]) (hd : Book.Distinct b) (hd' : Book.Distinct b')
    (h : ∀ k, memS k l = false → b'.get? k = b.get? k) :
    Book.sumBy f b' + sumNat (l.map fun k => Book.at? f b k) =
      Book.sumBy f b + sumNat (l.map fun k => Book.at? f b' k) := by
  rcases hl with rfl | ⟨k, rfl⟩
  · have := Book.sumBy_same f b b' hd hd' (fun k => h k (by simp [memS]))
    simp [sumNat, this]
  · have := Book.sumBy_frame f b b' k hd hd' (fun k2 hk => h k2 ((memS_single _ _).mpr hk))
    simp only [List.map_cons, List.map_nil, sumNat, List.foldr_cons, List.foldr_nil, Nat.add_zero]
    exact this

theorem namedAsks_shape (m : ExecMsg) : namedAsks m = [] ∨ ∃ k, namedAsks m = [k] := by
  cases m <;> simp [namedAsks]

theorem namedBids_shape (m : ExecMsg) : namedBids m = [] ∨ ∃ k, namedBids m = [k] := by
  cases m <;> simp [namedBids]

/-- only the named orders contribute to the change of what the book owes -/
theorem owed_frame (s s' : State) (m : ExecMsg) (d : String) (hs : sane s = true) (hs' : sane s' = true)
    (hf : Frame s m s') : owed s' d + namedOwed s m d = owed s d + namedOwed s' m d := by
  obtain ⟨hda, hdb⟩ := sane_distinct hs
  obtain ⟨hda', hdb'⟩ := sane_distinct hs'
  have hA := sum_named (askOwes d) s.asks s'.asks (namedAsks m) (namedAsks_shape m) hda hda' hf.asks
  have hB := sum_named (bidOwes d) s.bids s'.bids (namedBids m) (namedBids_shape m) hdb hdb' hf.bids
  unfold owed namedOwed
  omega

/-- C01, order by order: for every accepted request and every denomination, what the named
    orders were owed before + what the request brought in = what they are owed afterwards +
    what the request paid out.  For a request naming one order this is that order's own
    ledger; every other order's recorded amounts are untouched (C11_frame). -/
theorem C01_order_ledger (env : Env) (s s' : State) (c : Call) (r : Response) (d : String)
    (hs : sane s = true) (hx : ExactStep s c.msg) (hsender : c.sender ≠ env.contract)
    (hself : NoSelfPay env.contract r.msgs) (h : execute env s c = .ok (s', r)) :
    namedOwed s c.msg d + fundsOf c.funds d + credit env.contract r.msgs env.contract d =
      namedOwed s' c.msg d + debit env.contract r.msgs env.contract d := by
  have h1 := denomOK_iff.mp (C01_step env s s' c r d hs hx hsender hself h)
  have hs' := Sane_step env s s' c r hs hx h
  have h2 := owed_frame s s' c.msg d hs hs' (C11_frame env s s' c r hs h)
  omega

/-- … and zero once it has left the book: if the named orders are gone afterwards, the request
    paid out exactly everything they were still owed plus what it brought in – nothing is
    left stranded and nothing is over-paid -/
theorem C01_closed_paid (env : Env) (s s' : State) (c : Call) (r : Response) (d : String)
    (hs : sane s = true) (hx : ExactStep s c.msg) (hsender : c.sender ≠ env.contract)
    (hself : NoSelfPay env.contract r.msgs) (h : execute env s c = .ok (s', r))
    (hgoneA : ∀ k, memS k (namedAsks c.msg) = true → s'.asks.get? k = none)
    (hgoneB : ∀ k, memS k (namedBids c.msg) = true → s'.bids.get? k = none) :
    debit env.contract r.msgs env.contract d =
      namedOwed s c.msg d + fundsOf c.funds d + credit env.contract r.msgs env.contract d := by
  have h1 := C01_order_ledger env s s' c r d hs hx hsender hself h
  have hz : namedOwed s' c.msg d = 0 := by
    unfold namedOwed
    have e1 : ∀ k, memS k (namedAsks c.msg) = true → Book.at? (askOwes d) s'.asks k = 0 := by
      intro k hk; simp [Book.at?, hgoneA k hk]
    have e2 : ∀ k, memS k (namedBids c.msg) = true → Book.at? (bidOwes d) s'.bids k = 0 := by
      intro k hk; simp [Book.at?, hgoneB k hk]
    cases hm : c.msg <;> simp only [hm, namedAsks, namedBids, List.map_nil, List.map_cons, sumNat, List.foldr_cons, List.foldr_nil, Nat.add_zero] at e1 e2 ⊢
    all_goals simp [memS] at e1 e2
    all_goals simp [e1, e2]
  omega

theorem askHeld_eq (d : String) (s : State) (k : String) :
    askHeld d s k = Book.at? (askOwes d) s.asks k := by
  unfold askHeld Book.at?; cases s.asks.get? k <;> rfl

theorem bidHeld_eq (d : String) (s : State) (k : String) :
    bidHeld d s k = Book.at? (bidOwes d) s.bids k := by
  unfold bidHeld Book.at?; cases s.bids.get? k <;> rfl

/-- C09 (the fee leaves with the fill): on every accepted match, in the bid's quote
    denomination, what the ask and the bid held before + what the request brought in = what
    they hold afterwards + what the contract paid out.  The bid holds its unspent quote and its
    unspent fee; so the fee that leaves it – all that is left when the match closes the bid – is
    paid out (to the fee account, or back to the owner with a price improvement), never dropped. -/
theorem C09_fee_leaves (env : Env) (s s' : State) (c : Call) (r : Response)
    (a b p : String) (sz : Nat) (hm : c.msg = .executeMatch a b p sz)
    (hs : sane s = true) (hx : ExactStep s c.msg) (hsender : c.sender ≠ env.contract)
    (hself : NoSelfPay env.contract r.msgs) (h : execute env s c = .ok (s', r)) :
    C09_feeLeavesOK env.contract s c a b r s' = true := by
  unfold C09_feeLeavesOK
  cases hb : loadBid s b with
  | none => rfl
  | some bb =>
    have h1 := C01_order_ledger env s s' c r bb.quote.denom hs hx hsender hself h
    rw [hm] at h1
    simp only [namedOwed, namedAsks, namedBids, List.map_cons, List.map_nil, sumNat,
      List.foldr_cons, List.foldr_nil, Nat.add_zero] at h1
    simp only [askHeld_eq, bidHeld_eq, beq_iff_eq]
    omega

end Ats.Proofs
