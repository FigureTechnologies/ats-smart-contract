/-
  AtsProofs.Pay — credits and debits of the message lists the handlers build.
-/
import AtsProofs.Inv
namespace Ats
open Ats Ats.Spec

@[simp] theorem flowOf_payMsgR (r : Bool) (c d : String) (n : Nat) (to : String) :
    flowOf c (payMsgR r c d n to) = some ⟨c, to, d, n⟩ := by
  unfold payMsgR flowOf; cases r <;> rfl

@[simp] theorem flowOf_payMsg (env : Env) (d : String) (n : Nat) (to : String) :
    flowOf env.contract (payMsg env d n to) = some ⟨env.contract, to, d, n⟩ := by
  rw [payMsg_eq]; exact flowOf_payMsgR _ _ _ _ _

@[simp] theorem credit_nil (c a d : String) : credit c [] a d = 0 := rfl
@[simp] theorem debit_nil (c a d : String) : debit c [] a d = 0 := rfl
@[simp] theorem expCredit_nil (a d : String) : expCredit [] a d = 0 := rfl

theorem credit_cons (c : String) (m : Msg) (ms : List Msg) (a d : String) :
    credit c (m :: ms) a d = msgCredit c a d m + credit c ms a d := by
  simp [credit, sumNat]

theorem debit_cons (c : String) (m : Msg) (ms : List Msg) (a d : String) :
    debit c (m :: ms) a d = msgDebit c a d m + debit c ms a d := by
  simp [debit, sumNat]

theorem expCredit_cons (e : String × String × Nat) (es : List (String × String × Nat)) (a d : String) :
    expCredit (e :: es) a d = (if e.1 = a ∧ e.2.1 = d then e.2.2 else 0) + expCredit es a d := by
  simp [expCredit, sumNat]

theorem credit_append (c : String) (l1 l2 : List Msg) (a d : String) :
    credit c (l1 ++ l2) a d = credit c l1 a d + credit c l2 a d := by
  induction l1 with
  | nil => simp
  | cons m ms ih => simp only [List.cons_append, credit_cons, ih]; omega

theorem debit_append (c : String) (l1 l2 : List Msg) (a d : String) :
    debit c (l1 ++ l2) a d = debit c l1 a d + debit c l2 a d := by
  induction l1 with
  | nil => simp
  | cons m ms ih => simp only [List.cons_append, debit_cons, ih]; omega

theorem expCredit_append (l1 l2 : List (String × String × Nat)) (a d : String) :
    expCredit (l1 ++ l2) a d = expCredit l1 a d + expCredit l2 a d := by
  induction l1 with
  | nil => simp
  | cons m ms ih => simp only [List.cons_append, expCredit_cons, ih]; omega

@[simp] theorem credit_payMsgR (r : Bool) (c d : String) (n : Nat) (to : String) (ms : List Msg) (a d' : String) :
    credit c (payMsgR r c d n to :: ms) a d' = (if to = a ∧ d = d' then n else 0) + credit c ms a d' := by
  rw [credit_cons, msgCredit, flowOf_payMsgR]

@[simp] theorem credit_payMsg (env : Env) (d : String) (n : Nat) (to : String) (ms : List Msg) (a d' : String) :
    credit env.contract (payMsg env d n to :: ms) a d' = (if to = a ∧ d = d' then n else 0) + credit env.contract ms a d' := by
  rw [credit_cons, msgCredit, flowOf_payMsg]

@[simp] theorem debit_payMsgR (r : Bool) (c d : String) (n : Nat) (to : String) (ms : List Msg) (a d' : String) :
    debit c (payMsgR r c d n to :: ms) a d' = (if c = a ∧ d = d' then n else 0) + debit c ms a d' := by
  rw [debit_cons, msgDebit, flowOf_payMsgR]

@[simp] theorem debit_payMsg (env : Env) (d : String) (n : Nat) (to : String) (ms : List Msg) (a d' : String) :
    debit env.contract (payMsg env d n to :: ms) a d' = (if env.contract = a ∧ d = d' then n else 0) + debit env.contract ms a d' := by
  rw [debit_cons, msgDebit, flowOf_payMsg]

@[simp] theorem credit_payIfPosR (r : Bool) (c d : String) (n : Nat) (to : String) (a d' : String) :
    credit c (payIfPosMsgsR r c d n to) a d' = (if to = a ∧ d = d' then n else 0) := by
  unfold payIfPosMsgsR
  by_cases hn : n = 0
  · simp [hn]
  · simp [hn]

@[simp] theorem debit_payIfPosR (r : Bool) (c d : String) (n : Nat) (to : String) (a d' : String) :
    debit c (payIfPosMsgsR r c d n to) a d' = (if c = a ∧ d = d' then n else 0) := by
  unfold payIfPosMsgsR
  by_cases hn : n = 0
  · simp [hn]
  · simp [hn]

/-- every message of the list is a payout from the contract -/
def FromContract (c : String) (ms : List Msg) : Prop := ∀ m ∈ ms, ∃ f, flowOf c m = some f ∧ f.frm = c

theorem allFromContract_iff {c : String} {ms : List Msg} : allFromContract c ms = true ↔ FromContract c ms := by
  unfold allFromContract FromContract
  simp only [List.all_eq_true]
  constructor
  · intro h m hm
    have := h m hm
    cases hf : flowOf c m with
    | none => simp [hf] at this
    | some f => simp [hf] at this; exact ⟨f, rfl, this⟩
  · intro h m hm
    obtain ⟨f, hf, hfr⟩ := h m hm
    simp [hf, hfr]

theorem fromContract_nil (c : String) : FromContract c [] := by intro m hm; cases hm
theorem fromContract_cons {c : String} {m : Msg} {ms : List Msg} {f : Flow}
    (h1 : flowOf c m = some f) (h2 : f.frm = c) (h3 : FromContract c ms) : FromContract c (m :: ms) := by
  intro x hx
  rcases List.mem_cons.mp hx with rfl | hx
  · exact ⟨f, h1, h2⟩
  · exact h3 x hx
theorem fromContract_append {c : String} {l1 l2 : List Msg}
    (h1 : FromContract c l1) (h2 : FromContract c l2) : FromContract c (l1 ++ l2) := by
  intro x hx
  rcases List.mem_append.mp hx with hx | hx
  · exact h1 x hx
  · exact h2 x hx
theorem fromContract_payMsgR (r : Bool) (c d : String) (n : Nat) (to : String) {ms : List Msg}
    (h : FromContract c ms) : FromContract c (payMsgR r c d n to :: ms) :=
  fromContract_cons (flowOf_payMsgR _ _ _ _ _) rfl h
theorem fromContract_payMsg (env : Env) (d : String) (n : Nat) (to : String) {ms : List Msg}
    (h : FromContract env.contract ms) : FromContract env.contract (payMsg env d n to :: ms) :=
  fromContract_cons (flowOf_payMsg _ _ _ _) rfl h
theorem fromContract_payIfPosR (r : Bool) (c d : String) (n : Nat) (to : String) :
    FromContract c (payIfPosMsgsR r c d n to) := by
  unfold payIfPosMsgsR
  by_cases hn : n = 0
  · simp [hn]; exact fromContract_nil c
  · simp [hn]; exact fromContract_payMsgR _ _ _ _ _ (fromContract_nil c)
/-- the decidable `paysExactly` from its specification -/
theorem paysExactly_of {c : String} {ms : List Msg} {exp : List (String × String × Nat)}
    (h1 : FromContract c ms) (h2 : ∀ a d, credit c ms a d = expCredit exp a d) :
    paysExactly c ms exp = true := by
  unfold paysExactly creditsMatch
  simp only [Bool.and_eq_true, allFromContract_iff.mpr h1, true_and, List.all_eq_true, beq_iff_eq]
  intro a _ d _
  exact h2 a d

end Ats

namespace Ats.Proofs
open Ats Ats.Spec

/-- the escrow of an admitted request, as the specification states it -/
theorem escrowOK_of {env : Env} {c : Call} {r : Response} {coin : Coin}
    (hf : fundsOk (env.restricted coin.denom) c.funds coin = true)
    (hm : r.msgs = pullMsgs env coin.denom coin.amount c.sender) :
    escrowOK env c r coin = true := by
  unfold escrowOK fundsOk pullMsgs at *
  cases hr : env.restricted coin.denom <;> simp_all

/-! ### the message lists of the handlers -/

theorem credit_approverMsgs (env : Env) (cls : AskClass) (f : Coin → Nat) (x d : String) :
    credit env.contract (approverMsgs env cls f) x d =
      (match cls with
       | .ready ap c => if ap = x ∧ c.denom = d then f c else 0
       | _ => 0) := by
  unfold approverMsgs
  cases cls <;> simp

theorem debit_approverMsgs (env : Env) (cls : AskClass) (f : Coin → Nat) (d : String) :
    debit env.contract (approverMsgs env cls f) env.contract d =
      (match cls with
       | .ready _ c => if c.denom = d then f c else 0
       | _ => 0) := by
  unfold approverMsgs
  cases cls <;> simp

theorem fromContract_approverMsgs (env : Env) (cls : AskClass) (f : Coin → Nat) :
    FromContract env.contract (approverMsgs env cls f) := by
  unfold approverMsgs
  cases cls
  · exact fromContract_nil _
  · exact fromContract_nil _
  · exact fromContract_payMsg _ _ _ _ (fromContract_nil _)

theorem credit_askFeeMsgList (env : Env) {info : Info} {n : Nat} (h0 : info.askFee = none → n = 0)
    (qd x d : String) :
    credit env.contract (askFeeMsgList env info (env.restricted qd) n qd) x d =
      (if (info.askFee.map (·.account)).getD "" = x ∧ qd = d then n else 0) := by
  unfold askFeeMsgList
  cases h : info.askFee with
  | none => simp [h0 h]
  | some fi => simp

theorem debit_askFeeMsgList (env : Env) {info : Info} {n : Nat} (h0 : info.askFee = none → n = 0)
    (qd d : String) :
    debit env.contract (askFeeMsgList env info (env.restricted qd) n qd) env.contract d =
      (if qd = d then n else 0) := by
  unfold askFeeMsgList
  cases h : info.askFee with
  | none => simp [h0 h]
  | some fi => simp

theorem fromContract_askFeeMsgList (env : Env) (info : Info) (r : Bool) (n : Nat) (qd : String) :
    FromContract env.contract (askFeeMsgList env info r n qd) := by
  unfold askFeeMsgList
  cases info.askFee
  · exact fromContract_nil _
  · exact fromContract_payIfPosR _ _ _ _ _

theorem debit_classMsgList (env : Env) (a : Ask) (b : Bid) (net size : Nat) (d : String) :
    debit env.contract (classMsgList env a b (env.restricted a.base) (env.restricted b.quote.denom) net size)
        env.contract d =
      (match a.cls with
       | .basic => (if b.quote.denom = d then net else 0) + (if a.base = d then size else 0)
       | .ready _ c => (if c.denom = d then size else 0) + (if a.base = d then size else 0) +
                       (if b.quote.denom = d then net else 0)
       | .pending => 0) := by
  unfold classMsgList
  cases a.cls <;> simp [debit_append] <;> omega

theorem fromContract_classMsgList (env : Env) (a : Ask) (b : Bid) (rB rQ : Bool) (net size : Nat) :
    FromContract env.contract (classMsgList env a b rB rQ net size) := by
  unfold classMsgList
  cases a.cls
  · exact fromContract_append (fromContract_payIfPosR _ _ _ _ _) (fromContract_payMsgR _ _ _ _ _ (fromContract_nil _))
  · exact fromContract_nil _
  · exact fromContract_append
      (fromContract_payMsg _ _ _ _ (fromContract_payMsgR _ _ _ _ _ (fromContract_nil _)))
      (fromContract_payIfPosR _ _ _ _ _)

theorem fromContract_refundMsgList (env : Env) (b : Bid) (rQ : Bool) (x y : Nat) :
    FromContract env.contract (refundMsgList env b rQ x y) := by
  unfold refundMsgList
  apply fromContract_append (fromContract_payIfPosR _ _ _ _ _)
  split
  · exact fromContract_payIfPosR _ _ _ _ _
  · exact fromContract_nil _

theorem credit_refundMsgList {info : Info} {k : String} (env : Env) {b : Bid} (hfb : BidFacts info k b)
    {refund feeRefund : Nat} (hz : refund = 0 → feeRefund = 0) (x d : String) :
    credit env.contract (refundMsgList env b (env.restricted b.quote.denom) refund feeRefund) x d =
      (if b.owner = x ∧ b.quote.denom = d then refund else 0) +
      (if b.owner = x ∧ b.quote.denom = d then feeRefund else 0) := by
  unfold refundMsgList
  rw [credit_append, credit_payIfPosR, hfb.feeDenom]
  by_cases hr0 : refund = 0
  · simp [hr0, hz hr0]
  · simp [hr0]

theorem debit_refundMsgList {info : Info} {k : String} (env : Env) {b : Bid} (hfb : BidFacts info k b)
    {refund feeRefund : Nat} (hz : refund = 0 → feeRefund = 0) (d : String) :
    debit env.contract (refundMsgList env b (env.restricted b.quote.denom) refund feeRefund) env.contract d =
      (if b.quote.denom = d then refund else 0) + (if b.quote.denom = d then feeRefund else 0) := by
  unfold refundMsgList
  rw [debit_append, debit_payIfPosR, hfb.feeDenom]
  by_cases hr0 : refund = 0
  · simp [hr0, hz hr0]
  · simp [hr0]

end Ats.Proofs
