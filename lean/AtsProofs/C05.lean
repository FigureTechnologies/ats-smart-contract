/-
  C05 — Authorization: owners cancel, executors operate, approvers approve; no one else.
-/
import AtsProofs.Steps2
namespace Ats.Proofs
open Ats Ats.Spec

/-- every accepted request was sent by an account entitled to it — in every state, with no
    invariant assumed: cancel ⇒ the stored owner; match / expire / reject / modify ⇒ a configured
    executor; approve ⇒ a configured approver -/
theorem C05_auth (env : Env) (s s' : State) (c : Call) (r : Response)
    (h : execute env s c = .ok (s', r)) : authorized s c.sender c.msg = true := by
  cases (execute_ok h).2 with
  | createAsk _ _ _ _ _ hm _ => rw [hm]; rfl
  | createBid _ _ _ _ _ _ _ hm _ => rw [hm]; rfl
  | approveAsk id base size hm h =>
    obtain ⟨a, hap, _⟩ := approveAsk_ok h
    rw [hm]; exact hap
  | cancelAsk id hm h =>
    obtain ⟨a, _, ha, hown, _⟩ := cancelAsk_ok h
    rw [hm]; simp [authorized, ha, hown]
  | reverseAsk id requested hm h =>
    obtain ⟨a, _, hex, _⟩ := reverseAsk_ok h
    rcases hm with ⟨hm, _⟩ | hm <;> rw [hm] <;> exact hex
  | reverseBid id requested hm h =>
    obtain ⟨b, _, _, _, _, _, hb, hauth, _⟩ := reverseBid_ok h
    -- `reverse_bid` asks for the owner exactly when the action is `cancel_bid`
    rcases hm with ⟨hm | hm, _⟩ | hm <;> rw [hm] at hauth ⊢ <;> simp [actionName] at hauth <;>
      simp [authorized, hb, hauth]
  | executeMatch askId bidId price size hm h =>
    obtain ⟨_, _, _, _, _, _, _, _, _, _, _, _, hex, _⟩ := executeMatch_ok h
    rw [hm]; exact hex
  | modify ap ex ar aa br ba at_ bt hm h =>
    rw [hm]; exact (modifyContract_ok h).1

/-- a request from a sender who is not entitled to it is refused (contrapositive of
    `C05_auth`); refused requests leave the state unchanged by construction of `run` -/
theorem C05_refused (env : Env) (s : State) (c : Call)
    (h : authorized s c.sender c.msg = false) : ∃ e, execute env s c = .err e := by
  cases hx : execute env s c with
  | err e => exact ⟨e, rfl⟩
  | ok p =>
    have := C05_auth env s p.1 c p.2 (by rw [hx])
    rw [h] at this; cases this

/-- holding one role never confers another: an executor who is not the owner cannot cancel -/
theorem C05_executor_cannot_cancel (env : Env) (s : State) (sender id : String) (funds : List Coin) (a : Ask)
    (ha : s.asks.get? id = some a) (hne : a.owner ≠ sender) :
    ∃ e, execute env s ⟨sender, funds, .cancelAsk id⟩ = .err e := by
  apply C05_refused
  simp [authorized, ha, hne]

/-- an owner who is not an executor cannot expire or reject their own order -/
theorem C05_owner_cannot_expire (env : Env) (s : State) (sender id : String) (funds : List Coin)
    (sz : Option Nat) (hne : memS sender s.info.executors = false) :
    (∃ e, execute env s ⟨sender, funds, .expireAsk id⟩ = .err e) ∧
    (∃ e, execute env s ⟨sender, funds, .rejectAsk id sz⟩ = .err e) ∧
    (∃ e, execute env s ⟨sender, funds, .expireBid id⟩ = .err e) ∧
    (∃ e, execute env s ⟨sender, funds, .rejectBid id sz⟩ = .err e) := by
  refine ⟨?_, ?_, ?_, ?_⟩ <;> apply C05_refused <;> simp [authorized, hne]

/-- an approver who is not an executor cannot match or change the configuration -/
theorem C05_approver_cannot_match (env : Env) (s : State) (sender a b p : String) (sz : Nat)
    (funds : List Coin) (hne : memS sender s.info.executors = false) :
    ∃ e, execute env s ⟨sender, funds, .executeMatch a b p sz⟩ = .err e := by
  apply C05_refused
  simp [authorized, hne]

end Ats.Proofs
