/-
  AtsProofs.Findings — the hypotheses the property theorems carry are *necessary*: kernel-checked
  witnesses, on the executable model, of the two magnitude findings (DESIGN §8).

  F6: a product that needs more than 96 significant bits is rounded inside `checked_mul`; the
      whole-number test then passes on the rounded product.  From a consistent book (`sane`) the
      model accepts a match whose price × size is not a whole number (`C03_whole = false`), after
      which the book is no longer consistent (`sane = false`): `Sane_step` and `C03_whole_thm`
      do not hold without `ExactStep`.
  F7: beyond `4·F·Q ≤ 10^28` the pro-rata fee computed through the 28-digit quotient can be one
      unit off the nearest integer: `feeFor_near` does not hold without `C09_small`.

  The same inputs are in the corpus (`corpus/f6_*.json`, `corpus/f7_*.json`) and are replayed
  against the implementation on every run, which answers as the model does.
-/
import AtsProofs.Witness
namespace Ats.Proofs.Findings
open Ats Ats.Spec Ats.Dec Ats.Proofs

def env : Env :=
  { contract := "contract", restricted := fun _ => false, attrs := fun _ => some [],
    validAddr := fun a => decide (a.length ≥ 3), pkgVersion := "0.19.2", crateName := "ats-smart-contract" }

def A := "00000000-0000-0000-0000-0000000000a1"
def B := "00000000-0000-0000-0000-0000000000b1"

/-- lots of ten, prices with one decimal, no fees -/
def info : Info :=
  { name := "ats", bindName := "", baseDenom := "base", convertible := [], quotes := ["quote"],
    approvers := ["approver"], executors := ["exec"], askFee := none, bidFee := none,
    askAttrs := [], bidAttrs := [], precision := 1, increment := 10 }

def big : Nat := 5300000000000000000000000010

/-- an ask and a bid of 53…10 units at 1.5: 79…15 quote escrowed, everything on the grid -/
def s : State :=
  { info := info, version := ⟨"ats-smart-contract", "0.19.2"⟩,
    asks := [(A, { id := A, owner := "seller", cls := .basic, base := "base", quote := "quote",
                   price := "1.5", size := big })],
    bids := [(B, .v3 { id := B, owner := "buyer", base := ⟨"base", big⟩, quote := ⟨"quote", 7950000000000000000000000015⟩,
                       fee := none, price := "1.5", accBase := 0, accQuote := 0, accFee := 0 })] }

/-- the match: one unit short of the whole order – 1.5 × 53…09 = 79…13.5 -/
def call : Call := ⟨"exec", [], .executeMatch A B "1.5" (big - 1)⟩

def after : State := match execute env s call with | .ok (s', _) => s' | .err _ => s

/-- the five facts of F6, in one evaluation (the kernel computes `execute env s call` once) -/
theorem F6_all : sane s = true ∧ (execute env s call).isOk = true ∧
    C03_whole s B "1.5" (big - 1) = false ∧ Witness.exactStepB s call.msg = false ∧
    sane after = false := by decide +kernel

theorem F6_book_consistent : sane s = true := F6_all.1

theorem F6_accepted : (execute env s call).isOk = true := F6_all.2.1

/-- the accepted match's price × size is not a whole number … -/
theorem F6_not_whole : C03_whole s B "1.5" (big - 1) = false := F6_all.2.2.1

/-- … because the magnitude hypothesis fails (the product needs more than 96 bits) … -/
theorem F6_inexact : Witness.exactStepB s call.msg = false := F6_all.2.2.2.1

/-- … and the book it leaves is no longer consistent (the bid's unspent quote is not price ×
    unfilled size) -/
theorem F6_book_inconsistent_after : sane after = false := F6_all.2.2.2.2

/-- F7: fee 9952633520079 on a quote of 2888046710984459, 828079463750856 of it unspent: the
    pipeline keeps …966 where the nearest integer is …967, and 4·F·Q exceeds 10^28 -/
def F : Nat := 9952633520079
def Q : Nat := 2888046710984459
def q : Nat := 828079463750856

theorem F7_off_by_one :
    (Dec.feeFor F Q q).toOption = some ((2 * F * q + Q) / (2 * Q) - 1) ∧ 10 ^ 28 < 4 * F * Q := by decide +kernel

end Ats.Proofs.Findings
