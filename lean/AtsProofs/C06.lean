/-
  C06 — Exit liveness: an open order can always be cancelled and made whole.
-/
import AtsProofs.Effects
namespace Ats.Proofs
open Ats Ats.Spec

theorem askExitOK_iff {contract : String} {s s' : State} {id : String} {r : Response} {a : Ask}
    (ha : s.asks.get? id = some a) :
    C06_askExitOK contract s id r s' = true ↔
      paysExactly contract r.msgs
        ((a.owner, a.base, a.size) ::
          (match a.cls with | .ready ap conv => [(ap, conv.denom, conv.amount)] | _ => [])) = true ∧
      s'.asks.get? id = none := by
  simp only [C06_askExitOK, ha, Bool.and_eq_true, Option.isNone_iff_eq_none]
  cases a.cls <;> exact Iff.rfl

theorem bidExitOK_iff {contract : String} {s s' : State} {id : String} {r : Response} {b : Bid}
    (hb : loadBid s id = some b) :
    C06_bidExitOK contract s id r s' = true ↔
      paysExactly contract r.msgs
        [(b.owner, b.quote.denom, b.remQuote), (b.owner, b.quote.denom, b.remFee)] = true ∧
      s'.bids.get? id = none := by
  simp only [C06_bidExitOK, hb, Bool.and_eq_true, Option.isNone_iff_eq_none]

theorem anyForm_ne_empty {id : String} (h : isUuidAnyForm id = true) : (id != "") = true := by
  simp only [bne_iff_ne, ne_eq]
  intro he
  subst he
  simp [isUuidAnyForm] at h

/-- C06, asks, owner's cancel: in every sane state (so in every reachable state, and on seeded
    legacy or migrated books), for every marker assignment, the owner's plain fund-less cancel
    of any ask on the book succeeds, returns the whole remaining escrow – the ask's size to the
    owner and, if approved, the approver-supplied base to the approver – and removes the ask -/
theorem C06_cancel_ask (env : Env) (s : State) (id : String) (a : Ask) (hs : sane s = true)
    (ha : s.asks.get? id = some a) :
    ∃ s' r, execute env s ⟨a.owner, [], .cancelAsk id⟩ = .ok (s', r) ∧
      C06_askExitOK env.contract s id r s' = true := by
  have hf := sane_ask_facts hs ha
  have hsz : a.size ≠ 0 := by have := hf.size_pos; omega
  have hm1 : addTransfer (env.restricted a.base) a.size a.base a.owner env.contract =
      .ok (payMsg env a.base a.size a.owner) := addTransfer_eq_ok.mpr ⟨fun _ => hsz, rfl⟩
  have hm2 : approverLeg env a.cls (fun c => c.amount) = .ok (approverMsgs env a.cls (fun c => c.amount)) := by
    apply approverLeg_eq_ok.mpr
    refine ⟨?_, rfl⟩
    intro ap c hc _
    have := hf.cls_ok
    simp only [hc] at this
    rw [this.2.2.2]; exact hsz
  refine ⟨{ s with asks := s.asks.del a.id },
    { msgs := payMsg env a.base a.size a.owner :: approverMsgs env a.cls (fun c => c.amount),
      attrs := [("action", "cancel_ask"), ("id", a.id)] }, ?_, ?_⟩
  · unfold execute
    simp only [ExecMsg.valid, hf.key_form, guardR, if_true, Res.ok_bind]
    unfold cancelAsk
    simp [guardR, orErr, ha, hm1, hm2]
  · unfold C06_askExitOK
    simp only [ha, hf.id_eq, Book.get?_del_eq, Option.isNone_none, Bool.and_true]
    apply paysExactly_of
    · exact fromContract_payMsg _ _ _ _ (fromContract_approverMsgs _ _ _)
    · intro x d
      rw [credit_payMsg, credit_approverMsgs]
      cases a.cls <;> simp [expCredit_cons]

/-- C06, asks, an executor's expire -/
theorem C06_expire_ask (env : Env) (s : State) (id exec : String) (a : Ask) (hs : sane s = true)
    (ha : s.asks.get? id = some a) (hex : memS exec s.info.executors = true) :
    ∃ s' r, execute env s ⟨exec, [], .expireAsk id⟩ = .ok (s', r) ∧
      C06_askExitOK env.contract s id r s' = true := by
  have hf := sane_ask_facts hs ha
  have hsz : a.size ≠ 0 := by have := hf.size_pos; omega
  have hred : (a.reduce a.size).size = 0 := by simp [Ask.reduce]
  have hm1 : addTransfer (env.restricted a.base) a.size a.base a.owner env.contract =
      .ok (payMsg env a.base a.size a.owner) := addTransfer_eq_ok.mpr ⟨fun _ => hsz, rfl⟩
  have hm2 : approverLeg env (a.reduce a.size).cls (fun _ => a.size) =
      .ok (approverMsgs env (a.reduce a.size).cls (fun _ => a.size)) :=
    approverLeg_eq_ok.mpr ⟨fun _ _ _ _ => hsz, rfl⟩
  refine ⟨{ s with asks := putAsk s.asks (a.reduce a.size).id (a.reduce a.size) },
    { msgs := payMsg env a.base a.size a.owner :: approverMsgs env (a.reduce a.size).cls (fun _ => a.size),
      attrs := [("action", "expire_ask"), ("id", id), ("reverse_size", toString a.size),
                ("order_open", openFlag ((a.reduce a.size).size != 0))] }, ?_, ?_⟩
  · unfold execute
    simp only [ExecMsg.valid, hf.key_form, guardR, if_true, Res.ok_bind]
    unfold reverseAsk
    simp [guardR, orErr, ha, hm1, hm2, hex, anyForm_ne_empty hf.key_form]
  · unfold C06_askExitOK
    have hid : (a.reduce a.size).id = id := hf.id_eq
    simp only [ha, hid, putAsk_get_eq, hred, if_true, Option.isNone_none, Bool.and_true]
    apply paysExactly_of
    · exact fromContract_payMsg _ _ _ _ (fromContract_approverMsgs _ _ _)
    · intro x d
      rw [credit_payMsg, credit_approverMsgs]
      have hc := hf.cls_ok
      unfold Ask.reduce
      cases hcl : a.cls <;> simp only [hcl] at hc ⊢ <;> simp [expCredit_cons]
      rw [hc.2.2.2]

theorem remQuote_pos {info : Info} {k : String} {b : Bid} (hf : BidFacts info k b) : 0 < b.remQuote := by
  obtain ⟨p, hpp, hz, _, _⟩ := priceOK_parse hf.price_ok
  have hq := hf.qinv
  unfold quoteInv at hq
  simp only [hpp, beq_iff_eq] at hq
  have hm : 0 < p.mant := by
    unfold Dec.isZero at hz
    simp only [beq_eq_false_iff_ne, ne_eq] at hz
    exact Nat.pos_of_ne_zero hz
  have hb : 0 < b.remBase := by have := hf.base_lt; unfold Bid.remBase; omega
  have : 0 < b.remQuote * 10 ^ p.scale := by rw [hq]; exact Nat.mul_pos hm hb
  exact Nat.pos_of_mul_pos_right this

theorem feeFor_zero_ok {F Q : Nat} (hQ : 0 < Q) (hQl : Q < LIM) (hF : F < LIM) :
    Dec.feeFor F Q 0 = .ok 0 := by
  unfold Dec.feeFor Dec.ratio Dec.fromU128
  have h1 : ¬ (Q = 0 ∨ 0 > Q ∨ Q ≥ LIM) := by omega
  have hm : Dec.mul ⟨false, 0, 0⟩ (Dec.ofNat F) = some ⟨false, 0, 0⟩ := by
    unfold Dec.mul; simp
  simp only [h1, if_false, if_true, hF, orErr, Res.ok_bind, hm]
  simp [Dec.rha0, Dec.toU128]

/-- the fee a complete exit hands back is the whole unspent fee -/
theorem cancelFee_full {info : Info} {k : String} {b : Bid} (hf : BidFacts info k b) :
    ∃ x, cancelFee b b.remQuote = .ok x ∧ x.getD 0 = b.remFee := by
  have hq := hf.quote_le
  have hqp := remQuote_pos hf
  cases hfe : b.fee with
  | none =>
    refine ⟨none, cancelFee_ok.mpr (Or.inl ⟨hfe, rfl⟩), ?_⟩
    simp [Bid.remFee, Bid.feeAmount, hfe]
  | some f =>
    have hfl : f.amount < LIM := by have := hf.fee_lim; simpa [Bid.feeAmount, hfe] using this
    have hfa : b.accFee ≤ f.amount := by have := hf.fee_le; simpa [Bid.feeAmount, hfe] using this
    have hQ : 0 < b.quote.amount := by unfold Bid.remQuote at hqp; omega
    refine ⟨some (b.remFee - 0), cancelFee_ok.mpr (Or.inr ⟨f, 0, hfe, ⟨hq, Nat.le_refl _, ?_, hfa, Nat.zero_le _⟩, rfl⟩), by simp⟩
    rw [Nat.sub_self]
    exact feeFor_zero_ok hQ hf.quote_lim hfl

/-- C06, bids: the owner's cancel and an executor's expire of any bid on a sane book succeed,
    return the entire unspent quote and the entire unspent fee to the owner, and remove the bid -/
theorem C06_exit_bid (env : Env) (s : State) (id sender action : String) (b : Bid) (hs : sane s = true)
    (hb : loadBid s id = some b)
    (hauth : (if action == "cancel_bid" then sender == b.owner else memS sender s.info.executors) = true) :
    ∃ s' r, reverseBid env s sender [] id action none = .ok (s', r) ∧
      C06_bidExitOK env.contract s id r s' = true := by
  have hf := sane_bid_v3 hs hb
  obtain ⟨p, hpp, _, hpn, _⟩ := priceOK_parse hf.price_ok
  obtain ⟨hw, hprod⟩ := whole_rem hf.qinv hpp
  have hrem_lim : b.remBase < LIM := by have := hf.base_lim; unfold Bid.remBase; omega
  have hq_lim : product p b.remBase < LIM := by
    rw [hprod]; have := hf.quote_lim; unfold Bid.remQuote; omega
  obtain ⟨t, ht, hfr, hu⟩ := Dec.total_of_whole (Dec.parse_scale hpp) hpn hrem_lim hw hq_lim
  rw [hprod] at hu
  obtain ⟨x, hcf, hx⟩ := cancelFee_full hf
  have hqp := remQuote_pos hf
  have hm1 : addTransfer (env.restricted b.quote.denom) b.remQuote b.quote.denom b.owner env.contract =
      .ok (payMsg env b.quote.denom b.remQuote b.owner) :=
    addTransfer_eq_ok.mpr ⟨fun _ => by omega, rfl⟩
  have hm2 : payIfPos (env.restricted b.quote.denom) (x.getD 0) b.quote.denom b.owner env.contract =
      .ok (payIfPosMsgsR (env.restricted b.quote.denom) env.contract b.quote.denom (x.getD 0) b.owner) := payIfPosR_eq_ok.mpr rfl
  have hab : b.accBase ≤ b.base.amount := by have := hf.base_lt; omega
  have hrb : b.base.amount - b.accBase = b.remBase := rfl
  refine ⟨{ s with bids := (putBid s.bids (Bid.accumulate b b.remBase b.remQuote (x.getD 0)).id (Bid.accumulate b b.remBase b.remQuote (x.getD 0))) },
    { msgs := payMsg env b.quote.denom b.remQuote b.owner :: payIfPosMsgsR (env.restricted b.quote.denom) env.contract b.quote.denom (x.getD 0) b.owner,
      attrs := [("action", action), ("id", id), ("reverse_size", toString b.remBase),
                ("order_open", openFlag ((b.accumulate b.remBase b.remQuote (x.getD 0)).base.amount -
                  (b.accumulate b.remBase b.remQuote (x.getD 0)).accBase != 0))] }, ?_, ?_⟩
  · have hauth' : (if action = "cancel_bid" then sender = b.owner else memS sender s.info.executors = true) := by
      by_cases ha : action = "cancel_bid" <;> simp [ha] at hauth ⊢ <;> exact hauth
    unfold reverseBid
    simp [guardR, orErr, subR, hb, hauth', hab, hrb, hpp, ht, hfr, hu, hcf, hm1, hm2,
      anyForm_ne_empty hf.key_form]
  · unfold C06_bidExitOK
    have hid : (b.accumulate b.remBase b.remQuote (x.getD 0)).id = id := hf.id_eq
    have hz : (b.accumulate b.remBase b.remQuote (x.getD 0)).base.amount -
        (b.accumulate b.remBase b.remQuote (x.getD 0)).accBase = 0 := by
      simp only [Bid.accumulate, Bid.remBase]; omega
    simp only [hb, hid, putBid_get_eq, hz, if_true, Option.isNone_none, Bool.and_true]
    apply paysExactly_of
    · exact fromContract_payMsg _ _ _ _ (fromContract_payIfPosR _ _ _ _ _)
    · intro y d
      rw [credit_payMsg, credit_payIfPosR, hx]
      simp [expCredit_cons]

theorem C06_cancel_bid (env : Env) (s : State) (id : String) (b : Bid) (hs : sane s = true)
    (hb : loadBid s id = some b) :
    ∃ s' r, execute env s ⟨b.owner, [], .cancelBid id⟩ = .ok (s', r) ∧
      C06_bidExitOK env.contract s id r s' = true := by
  obtain ⟨s', r, h1, h2⟩ := C06_exit_bid env s id b.owner "cancel_bid" b hs hb (by simp)
  refine ⟨s', r, ?_, h2⟩
  unfold execute
  simp only [ExecMsg.valid, (sane_bid_v3 hs hb).key_form, guardR, if_true, Res.ok_bind]
  exact h1

theorem C06_expire_bid (env : Env) (s : State) (id exec : String) (b : Bid) (hs : sane s = true)
    (hb : loadBid s id = some b) (hex : memS exec s.info.executors = true) :
    ∃ s' r, execute env s ⟨exec, [], .expireBid id⟩ = .ok (s', r) ∧
      C06_bidExitOK env.contract s id r s' = true := by
  obtain ⟨s', r, h1, h2⟩ := C06_exit_bid env s id exec "expire_bid" b hs hb (by simpa using hex)
  refine ⟨s', r, ?_, h2⟩
  unfold execute
  simp only [ExecMsg.valid, (sane_bid_v3 hs hb).key_form, guardR, if_true, Res.ok_bind]
  exact h1

end Ats.Proofs
