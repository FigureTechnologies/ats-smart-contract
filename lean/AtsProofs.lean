/- root of all proof modules (what `setup.sh` builds; each check builds only its own closure) -/
import AtsProofs.C01b
import AtsProofs.C03
import AtsProofs.C05
import AtsProofs.C13
import AtsProofs.C16
import AtsProofs.History
import AtsProofs.C09b
import AtsProofs.C08
import AtsProofs.Witness
